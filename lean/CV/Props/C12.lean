/-
  Property C12 — call graph and in-use set are complete.
  Model: CV.CallGraph.dfs (port of function_is_actually_in_use).
  Specification: `Reach`, reachability from the roots (`main` and the interrupt handlers) through the call tree, for
  every tree (cycles, self calls, callees without an entry, `main` absent).
  Not proved: that every call lowering records the call in the tree (generator code outside the model); checked per
  compiled function — every `JSR` target and every `.endofinline` expansion in the emitted code must be in the tree —
  and against the call graph of the generated source.
-/
import CV.CallGraph
namespace CV.C12
open CV.CallGraph

inductive Reach (t : Tree) (roots : List String) : String → Prop
  | root (r : String) : r ∈ roots → Reach t roots r
  | step (f g : String) : Reach t roots f → g ∈ callees t f → Reach t roots g

/-- invariant of the worklist: everything seen or pending is reachable -/
theorem dfs_sound (t : Tree) (roots : List String) (n : Nat) (stack vis res : List String)
    (hs : ∀ x ∈ stack, Reach t roots x) (hv : ∀ x ∈ vis, Reach t roots x)
    (h : dfs t n stack vis = some res) : ∀ x ∈ res, Reach t roots x := by
  -- `case1` empty stack (the result is `vis`), `case2` out of fuel, `case3` the top of the stack was visited already,
  -- `case4` it is new: visited now, its callees pushed
  fun_induction dfs t n stack vis with
  | case1 => cases h; exact hv
  | case2 => cases h
  | case3 n f st vis hf ih => exact ih (fun x hx => hs x (by simp [hx])) hv h
  | case4 n f st vis hf ih =>
    have hfr := hs f (by simp)
    refine ih (fun x hx => ?_) (fun x hx => ?_) h
    · rcases List.mem_append.mp hx with hx | hx
      · exact .step f x hfr hx
      · exact hs x (by simp [hx])
    · rcases List.mem_cons.mp hx with rfl | hx
      · exact hfr
      · exact hv x hx

/-- the other invariant: the visited set is closed under calls up to what is still pending, and only grows -/
theorem dfs_closed (t : Tree) (n : Nat) (stack vis res : List String)
    (hc : ∀ v ∈ vis, ∀ w ∈ callees t v, w ∈ vis ∨ w ∈ stack) (h : dfs t n stack vis = some res) :
    (∀ x ∈ vis, x ∈ res) ∧ (∀ x ∈ stack, x ∈ res) ∧ (∀ v ∈ res, ∀ w ∈ callees t v, w ∈ res) := by
  fun_induction dfs t n stack vis with
  | case1 => cases h; exact ⟨fun _ hx => hx, nofun, fun v hv w hw => (hc v hv w hw).resolve_right (by simp)⟩
  | case2 => cases h
  | case3 n f st vis hf ih =>
    -- a callee that was pending as `f` is a visited one
    have hc' : ∀ v ∈ vis, ∀ w ∈ callees t v, w ∈ vis ∨ w ∈ st := by
      intro v hv w hw
      rcases hc v hv w hw with hw | hw
      · exact .inl hw
      · rcases List.mem_cons.mp hw with rfl | hw
        · exact .inl hf
        · exact .inr hw
    obtain ⟨hvis, hstack, hclosed⟩ := ih hc' h
    refine ⟨hvis, fun x hx => ?_, hclosed⟩
    rcases List.mem_cons.mp hx with rfl | hx
    · exact hvis x hf
    · exact hstack x hx
  | case4 n f st vis hf ih =>
    have hc' : ∀ v ∈ f :: vis, ∀ w ∈ callees t v, w ∈ f :: vis ∨ w ∈ callees t f ++ st := by
      intro v hv w hw
      rcases List.mem_cons.mp hv with rfl | hv
      · exact .inr (List.mem_append_left _ hw)
      · rcases hc v hv w hw with hw | hw
        · exact .inl (List.mem_cons_of_mem _ hw)
        · rcases List.mem_cons.mp hw with rfl | hw
          · exact .inl List.mem_cons_self
          · exact .inr (List.mem_append_right _ hw)
    obtain ⟨hvis, hstack, hclosed⟩ := ih hc' h
    refine ⟨fun x hx => hvis x (List.mem_cons_of_mem _ hx), fun x hx => ?_, hclosed⟩
    rcases List.mem_cons.mp hx with rfl | hx
    · exact hvis x List.mem_cons_self
    · exact hstack x (List.mem_append_right _ hx)

theorem dfs_complete (t : Tree) (roots : List String) (n : Nat) (res : List String)
    (h : dfs t n roots [] = some res) : ∀ x, Reach t roots x → x ∈ res := by
  obtain ⟨-, hroots, hclosed⟩ := dfs_closed t n roots [] res nofun h
  intro x hx
  induction hx with
  | root r hr => exact hroots r hr
  | step f g _ hg ih => exact hclosed f ih g hg

/-- the published in-use set is exactly the set reachable from `main` and the interrupt handlers -/
theorem inUse_eq_reachable (t : Tree) (ints : List String) (res : List String)
    (h : inUse t ints = some res) : ∀ x, x ∈ res ↔ Reach t ("main" :: ints) x := by
  intro x
  constructor
  · intro hx
    exact dfs_sound t _ _ _ [] res (fun y hy => Reach.root y hy) (by simp) h x hx
  · exact dfs_complete t _ _ res h x

/-- Two steps of `Reach`, standing for this: when `g` is inlined into `f`, the calls in `g`'s body are recorded in the
    tree under `g`'s name, not `f`'s, which is enough for them to be in use whenever `f` is. The tree does not record
    "inline". -/
theorem reachable_via_inline (t : Tree) (roots : List String) (f g h : String)
    (hf : Reach t roots f) (hg : g ∈ callees t f) (hh : h ∈ callees t g) : Reach t roots h :=
  Reach.step g h (Reach.step f g hf hg) hh

/-! non-vacuity: cycle, self call, missing entry, unused function, interrupt handler -/
def demo : Tree := [("main", ["a", "b"]), ("a", ["a", "c"]), ("c", ["main"]), ("irq", ["d"]), ("unused", ["b"])]
example : inUse demo ["irq"] = some ["d", "irq", "b", "c", "a", "main"] := by decide +kernel

end CV.C12
