/-
  Property C08 — macro expansion is token-exact.
  Model: CV.Cpp.substWord / substWordGo (the `\bNAME\b` replace_all of cpp.rs on ASCII text),
  CV.Cpp.applyMacro / replaceAll, CV.Cpp.process.
  A name is replaced only where it stands as a whole word (`wordAt`) — never as part of a longer identifier, never
  inside a literal marker `@k@` (literal opacity, shared with C09) —, and a whole-word occurrence with no earlier match
  is replaced. Witnesses through the whole model (`process`) show where expansion is as in C and state the deviations
  that remain: `param_shadow_witness`, `undef_after_definition_witness`.
  Not proved: positional substitution of function-like macro arguments (nested parentheses, nested calls) and
  equivalence with C's expansion in general; decided by the correspondence with cpp::process (hook H2) and an
  independent C-rule expander in the check (partial).
-/
import CV.Cpp
import CV.Proofs.TextLemmas
namespace CV.C08
open CV.Cpp

/-- `name` matches at no position of `s` (with `prev` the character before `s`) -/
def noMatch (name : Str) : Option Char → Str → Bool
  | _, [] => true
  | prev, c :: cs => !wordAt name prev (c :: cs) && noMatch name (some c) cs

theorem substWordGo_of_noMatch {name value s : Str} {prev : Option Char} {fuel : Nat}
    (hf : s.length < fuel) (h : noMatch name prev s = true) : substWordGo name value fuel prev s = (s, false) := by
  induction s generalizing prev fuel with
  | nil => cases fuel <;> rfl
  | cons c cs ih =>
    cases fuel with
    | zero => cases hf
    | succ f =>
      rw [noMatch, Bool.and_eq_true, Bool.not_eq_true'] at h
      rw [substWordGo, if_neg (by rw [h.1]; exact Bool.false_ne_true), ih (Nat.lt_of_succ_lt_succ hf) h.2]

theorem substWord_of_noMatch {name value s : Str} (h : noMatch name none s = true) :
    substWord name value s = (s, false) :=
  substWordGo_of_noMatch (Nat.lt_succ_self _) h

/-- preceded by a word character: not a match (never the tail of a longer identifier) -/
theorem not_inside_identifier_left (name s : Str) (p h0 : Char) (t : Str)
    (hn : name = h0 :: t) (hw : isWord h0 = true) (hp : isWord p = true) :
    wordAt name (some p) s = false := by
  subst hn
  simp [wordAt, hw, hp]

/-- followed by a word character: not a match (never the head of a longer identifier) -/
theorem not_inside_identifier_right (name rest : Str) (prev : Option Char) (n : Char)
    (hl : (name.getLast?.map isWord).getD false = true) (hn : isWord n = true) :
    wordAt name prev (name ++ n :: rest) = false := by
  unfold wordAt
  simp [hl, hn]

theorem noMatch_of_head_absent {h0 : Char} {t s : Str} {prev : Option Char} (h : ∀ c ∈ s, c ≠ h0) :
    noMatch (h0 :: t) prev s = true := by
  induction s generalizing prev with
  | nil => rfl
  | cons c cs ih =>
    have hc : c ≠ h0 := h c (by simp)
    have : wordAt (h0 :: t) prev (c :: cs) = false := by
      simp [wordAt, List.isPrefixOf, Ne.symm hc]
    simp [noMatch, this, ih fun x hx => h x (by simp [hx])]

/-- literal markers are opaque to every macro named by an identifier -/
theorem markers_untouched (h0 : Char) (t value : Str) (k : Nat)
    (hid : h0.isAlpha = true ∨ h0 = '_') :
    substWord (h0 :: t) value ('@' :: (toString k).toList ++ ['@']) = ('@' :: (toString k).toList ++ ['@'], false) := by
  -- the marker consists of `@` and digits; the first character of an identifier is neither
  refine substWord_of_noMatch (noMatch_of_head_absent fun c hc e => ?_)
  subst e
  simp only [List.mem_cons, List.mem_append, List.not_mem_nil, or_false] at hc
  rcases hc with (rfl | hc) | rfl
  · exact absurd hid (by decide)
  · have hd := digits_all k _ hc
    rcases hid with h | rfl
    · simp [Char.isAlpha, Char.isUpper, Char.isLower, Char.isDigit, UInt32.le_iff_toNat_le] at h hd
      omega
    · simp [Char.isDigit] at hd
  · exact absurd hid (by decide)

/-- A whole-word occurrence with no earlier match is replaced, and the scan goes on behind it. In `hbefore` and `hat`,
    `if k = 0 then prev else a[k - 1]?` is the character before position `k` of `a`, `prev` being the one before the
    text: the name matches at no position of `a` (`hbefore`) and it matches right behind `a` (`hat`). -/
theorem match_replaced (name value a b : Str) (prev : Option Char) (fuel : Nat)
    (hfuel : (a ++ name ++ b).length < fuel)
    (hbefore : ∀ (k : Nat), k < a.length →
      wordAt name (if k = 0 then prev else a[k - 1]?) ((a ++ name ++ b).drop k) = false)
    (hat : wordAt name (if a.length = 0 then prev else a[a.length - 1]?) (name ++ b) = true) :
    substWordGo name value fuel prev (a ++ name ++ b)
      = (a ++ value ++ (substWordGo name value (fuel - a.length - 1) name.getLast? b).1, true) := by
  induction a generalizing prev fuel with
  | nil =>
    obtain ⟨f, rfl⟩ : ∃ f, fuel = f + 1 := ⟨fuel - 1, by omega⟩
    cases name with
    | nil => simp [wordAt] at hat
    | cons n0 ns =>
      -- the match is at the head: one unfolding, in which `drop` takes the name off
      rw [List.length_nil, if_pos rfl, List.cons_append] at hat
      rw [List.nil_append, List.cons_append, substWordGo, if_pos hat, ← List.cons_append, List.drop_left]
      rfl
  | cons x xs ih =>
    obtain ⟨f, rfl⟩ : ∃ f, fuel = f + 1 := ⟨fuel - 1, by omega⟩
    have h0 : wordAt name prev (x :: (xs ++ name ++ b)) = false := by simpa using hbefore 0 (by simp)
    -- the character before position `k + 1` of `x :: xs` is the one before position `k` of `xs` after `x`
    have hrec := ih (some x) f (by simp at hfuel ⊢; omega)
      (fun k hk => by simpa [List.getElem?_cons] using hbefore (k + 1) (by simpa using hk))
      (by rwa [List.length_cons, if_neg (Nat.succ_ne_zero _), Nat.add_sub_cancel, List.getElem?_cons] at hat)
    rw [List.cons_append, List.cons_append, substWordGo, if_neg (by rw [h0]; exact Bool.false_ne_true), hrec]
    simp -- the fuel left: `f + 1 - (xs.length + 1) = f - xs.length`

def outText : Outcome → Option String
  | .ok out _ _ => some (String.ofList out)
  | _ => none

/-! In the witnesses below `rw [String.toList_ofList]` comes first: a string literal is `String.ofList` of its
    characters, so the lemma hands the kernel the input as a list; evaluating `"…".toList` would make it encode
    the literal to UTF-8 and decode it again, which costs twice as much as running `process` on the result. -/

/-- a body naming a macro that is defined later IS expanded at the use site: every pass of `replace_all` looks for
    macros in the line as it is then -/
theorem later_macro_rescanned_witness :
    outText (process [] "m.c" [] "#define A B\n#define B 1\nA\n".toList) = some "1\n" := by
  rw [String.toList_ofList]; decide +kernel

/-- `-DA=7 -DB=A`: the value of B is expanded at the use site, like the `#define B A` after `#define A 7` -/
theorem dash_D_value_expanded_witness :
    outText (process [] "m.c" [("A".toList, "7".toList), ("B".toList, "A".toList)] "B\n".toList) = some "7\n" ∧
    outText (process [] "m.c" [] "#define A 7\n#define B A\nB\n".toList) = some "7\n" := by
  repeat rw [String.toList_ofList]
  decide +kernel

/-- a macro name that only appears once another macro has been expanded (here: handed over as an argument) is
    expanded as well -/
theorem uncovered_macro_expanded_witness :
    outText (process [] "m.c" [] "#define twice(a) (a)*2\n#define CALL(f) f(1)\nCALL(twice)\n".toList) = some "(1)*2\n" := by
  rw [String.toList_ofList]; decide +kernel

/-- a parameter named like an earlier macro is replaced by that macro's value in the body -/
theorem param_shadow_witness :
    outText (process [] "m.c" [] "#define x 5\n#define F(x) x+1\nF(2)\n".toList) = some "5+1\n" := by
  rw [String.toList_ofList]; decide +kernel

/-- bodies are expanded when the macro is defined: undefining a macro a body was built from does
    not change later uses (C rescans at the use site and would give `A`) -/
theorem undef_after_definition_witness :
    outText (process [] "m.c" [] "#define A 1\n#define B A\n#undef A\nB\n".toList) = some "1\n" := by
  rw [String.toList_ofList]; decide +kernel

/-! non-vacuity -/
example : substWord "MAX".toList "9".toList "a = MAX + MAXIMUM + xMAX + MAX;".toList
    = ("a = 9 + MAXIMUM + xMAX + 9;".toList, true) := by
  repeat rw [String.toList_ofList]
  decide

end CV.C08
