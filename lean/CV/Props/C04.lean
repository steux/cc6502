/-
  Property C04 — reported function size equals the assembled size.
  Model: CV.AsmSel (port of asm()), CV.Asm.sizeBytes (port of size_bytes), CV.Asm.asmLen
  (independent encoder: CV.Encode's opcode matrix + dasm's zero-page rule).
  Per instruction, for all abstract inputs of `asm()` (names and offsets do not influence the size): `selA_size`, up
  to the 6502-less pairs `asm()` does not reject (`unguardedRMW`). `asm()` sizes an operand by a rule of six lines
  (`nbOf`, with the indexed pairs it refuses: `rejects`): `selA_follows` walks the port once to show that it follows the
  rule, and the rule is compared with the opcode matrix on the table mnemonic × operand form × page (`allOK`).
  Per function: `sizeBytes_eq_asmLen`, inline lines counted at their declared/default size.
  Not proved: that the text rendered by `asmSel` parses back to the form it was rendered from (evaluated on the
  complete matrix by the check), and that the unmodelled generator only calls `asm()` on applicable pairs outside
  `unguardedRMW` (checked per compiled function).
-/
import CV.AsmSel
import CV.Proofs.BranchLemmas
namespace CV.C04

/-- the mnemonics `asm()` can be called with: `Mn` lists the 45 of `AsmMnemonic` first, in the enum's order; those behind
    them occur in inline text only -/
def asmMns : List Mn := Mn.all.take 45

/-- the applicable pairs `asm()` lets through although the 6502 has no such instruction -/
def unguardedRMW (mn : Mn) (f : Form) : Bool :=
  match mn, f with
  | .INC, .none | .DEC, .none => true
  | m, .idxY _ | m, .indY => m.cls == .rmw
  | _, _ => false

/-- the flags are `selA`'s: `c` const, `zp` in the zero page, `s1` size = 1, `e` eight_bits, `h` high_byte -/
def sizeOK (mn : Mn) (k : OKind) (ty : VType) (c zp s1 e h : Bool) : Bool :=
  match selA mn k ty c zp s1 e h with
  | .ok f nb _ _ =>
    !applicable mn f ||
    (match modeOfForm mn f zp with
     | some m => m.len == nb
     | none => false) || unguardedRMW mn f
  | _ => true

/-- `nb_bytes` as `asm()` computes it: from the operand form, whether the variable lies in page zero, and the mnemonic for
    `,Y` operands (only `LDX` / `STX` have a `zp,Y` form) and labels (`JMP` / `JSR` take an address) -/
def nbOf (mn : Mn) (f : Form) (zp : Bool) : Nat :=
  match f with
  | .none => 1
  | .dir _ _ | .idxX _ => if zp then 2 else 3
  | .idxY _ => if zp then (match mn with | .STX | .LDX => 2 | _ => 3) else 3
  | .label => (match mn with | .JMP | .JSR => 3 | _ => 2)
  | _ => 2

/-- the indexed operands `asm()` refuses: `,X` with an X instruction or `CPY`, `,Y` with a Y instruction or `CPX`, the
    crossed stores outside page zero, `(zp),Y` with any X / Y instruction -/
def rejects (mn : Mn) (f : Form) (zp : Bool) : Bool :=
  match f with
  | .idxX _ => (match mn with | .STX | .LDX | .CPX | .CPY => true | .STY => !zp | _ => false)
  | .idxY _ => (match mn with | .STY | .LDY | .CPY | .CPX => true | .STX => !zp | _ => false)
  | .indY => (match mn with | .STX | .STY | .LDX | .LDY | .CPX | .CPY => true | _ => false)
  | _ => false

/-- a success of `selA` is not among `rejects` and reports `nbOf` bytes -/
def Follows (mn : Mn) (zp : Bool) : SelA → Prop
  | .ok f nb _ _ => rejects mn f zp = false ∧ nb = nbOf mn f zp
  | _ => True

theorem selA_follows (mn : Mn) (k : OKind) (ty : VType) (c zp s1 e h : Bool) :
    Follows mn zp (selA mn k ty c zp s1 e h) := by
  -- `selA` is a tree of `if` / `match` over leaves: at an `.ok` leaf both claims hold by `rfl`, the first in the
  -- default arm of a `match mn` from what the arms before it exclude; `zp` is fixed first, since `nbOf` computes from
  -- it what some leaves give as a numeral
  unfold selA
  cases zp <;> cases k <;>
    simp only [Bool.false_eq_true, ↓reduceIte, Bool.not_true, Bool.not_false, Bool.false_and, Bool.true_and] <;>
    repeat' first
      | exact ⟨rfl, rfl⟩
      | exact True.intro
      | (refine ⟨?_, rfl⟩; unfold rejects; simp only []; done)
      | (apply iteInduction (motive := Follows mn _) <;> intro _)
      | split

def forms : List Form :=
  [.none, .immVal, .immZero, .immLo, .immHi, .tmp, .indY, .label] ++
    [Plus.p0, .p1, .psize].flatMap fun p => [.dir p .pos, .dir p .nz, .idxX p, .idxY p]
def bools : List Bool := [false, true]

/-- `nbOf` against the opcode matrix, for every mnemonic and form `asm()` does not refuse -/
def allOK : Bool :=
  asmMns.all fun mn => forms.all fun f => bools.all fun zp =>
    !applicable mn f || rejects mn f zp ||
    (match modeOfForm mn f zp with
     | some m => m.len == nbOf mn f zp
     | none => false) || unguardedRMW mn f

theorem allOK_true : allOK = true := by decide +kernel

theorem mem_forms (f : Form) : f ∈ forms := by
  cases f <;> (try rename_i p; cases p) <;> (try rename_i r; cases r) <;> decide +kernel
theorem mem_bools (b : Bool) : b ∈ bools := by cases b <;> decide

/-- for every input of `asm()`: if it succeeds on an applicable pair outside `unguardedRMW`, the mode the assembler
    selects for the operand form has exactly `nb_bytes` bytes (`selA_size_mode` spells it out) -/
theorem selA_size (mn : Mn) (hmn : mn ∈ asmMns) (k : OKind) (ty : VType) (c zp s1 e h : Bool) :
    sizeOK mn k ty c zp s1 e h = true := by
  have hf := selA_follows mn k ty c zp s1 e h
  have H := allOK_true
  simp only [allOK, List.all_eq_true] at H
  unfold sizeOK
  split
  next f nb _ _ hs =>
    rw [hs] at hf
    have H := H mn hmn f (mem_forms f) zp (mem_bools zp)
    simpa only [hf.1, ← hf.2, Bool.or_false] using H
  next => rfl

theorem selA_size_mode (mn : Mn) (hmn : mn ∈ asmMns) (k : OKind) (ty : VType) (c zp s1 e h : Bool)
    (f : Form) (nb cyc : Nat) (alt : Option Nat)
    (hs : selA mn k ty c zp s1 e h = SelA.ok f nb cyc alt) (ha : applicable mn f = true)
    (hu : unguardedRMW mn f = false) :
    ∃ m, modeOfForm mn f zp = some m ∧ m.len = nb := by
  have H := selA_size mn hmn k ty c zp s1 e h
  simp only [sizeOK, hs, ha, hu, Bool.not_true, Bool.false_or, Bool.or_false] at H
  cases hm : modeOfForm mn f zp with
  | none => simp [hm] at H
  | some m => exact ⟨m, rfl, by simpa [hm] using H⟩

-- `hmn` is not needed: the six read-modify-write instructions are all in `asmMns`
/-- the combinations `asm()` lets through really have no 6502 encoding, whatever the page -/
theorem unguardedRMW_illegal (mn : Mn) (hmn : mn ∈ asmMns) (p : Plus) (zp : Bool) :
    mn.cls = MnClass.rmw → modeOfForm mn (Form.idxY p) zp = none ∧ modeOfForm mn Form.indY zp = none := by
  intro hc
  have h : legal mn .zpY = false ∧ legal mn .absY = false ∧ legal mn .indY = false := by
    cases mn <;> first | exact MnClass.noConfusion hc | exact ⟨rfl, rfl, rfl⟩
  simp only [modeOfForm, h, Bool.and_false, Bool.false_eq_true, if_false, and_self]

theorem asmLen_fold (env : Env) (code : Code) (n : Nat) (h : ∀ l ∈ code, l.asmLen env = some l.size) :
    code.foldlM (fun n l => (l.asmLen env).map (n + ·)) n = some (n + sizeBytes code) := by
  induction code generalizing n with
  | nil => simp [sizeBytes]
  | cons l ls ih =>
    have hl := h l (by simp)
    simp only [List.foldlM_cons, hl, Option.map_some, Option.bind_eq_bind, Option.bind_some]
    rw [ih _ (fun x hx => h x (by simp [hx]))]
    simp [sizeBytes_cons]; omega

/-- if every line assembles to its reported size, `size_bytes()` is the length of the independent encoding -/
theorem sizeBytes_eq_asmLen (env : Env) (code : Code)
    (h : ∀ l ∈ code, l.asmLen env = some l.size) : asmLen env code = some (sizeBytes code) := by
  have := asmLen_fold env code 0 h
  simpa [asmLen] using this

/-- the property's last clause, "and is never smaller" -/
theorem size_not_smaller (env : Env) (code : Code) (n : Nat)
    (h : ∀ l ∈ code, l.asmLen env = some l.size) (ha : asmLen env code = some n) :
    n ≤ sizeBytes code ∧ sizeBytes code ≤ n := by
  rw [sizeBytes_eq_asmLen env code h] at ha
  cases ha; exact ⟨Nat.le_refl _, Nat.le_refl _⟩

theorem sizeBytes_append (a b : Code) : sizeBytes (a ++ b) = sizeBytes a + sizeBytes b :=
  CV.sizeBytes_append a b

/-- replacing a line by `Dummy` (what `optimize` does) lowers the reported size by that line's size -/
theorem sizeBytes_dummy (pre post : Code) (l : Line) :
    sizeBytes (pre ++ Line.dummy :: post) + l.size = sizeBytes (pre ++ l :: post) := by
  simp [CV.sizeBytes_append, sizeBytes_cons, Line.size]; omega

/-! non-vacuity: successful, applicable, guarded inputs -/
example : selA .LDA .abs .char false true true true false = SelA.ok (.dir .p0 .pos) 2 3 none := by decide
example : selA .STA .absY .charPtr false true true true false = SelA.ok .indY 2 6 (some 7) := by decide
example : selA .LDX .absY .charPtr true false false true false = SelA.ok (.idxY .p0) 3 4 (some 5) := by decide
example : applicable .STA .indY = true ∧ unguardedRMW .STA .indY = false := by decide
example : unguardedRMW .ASL (.idxY .p0) = true ∧ applicable .ASL (.idxY .p0) = true := by decide

end CV.C04
