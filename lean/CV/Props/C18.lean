/-
  Property C18 — timing and hardware-access statements are emitted exactly.
  Models: CV.Gen.csleepArms (translated on every run from generate_csleep_statement), CV.Opt
  (port of optimize), CV.Encode (cycle table from the MOS data sheet), CV.Mos (semantics).

  The csleep table arm by arm (cycles, protection, effect on the machine state), and what `optimize` keeps of any
  line vector. The limits of the latter are stated by witnesses, so that nobody reads more into the theorems: compare
  folding ignores `protected` on the compare, the exchange rule moves a protected `LDA` past a `CLC` (never across an
  inline line), csleep arms built from DEC / PLA change N and Z. The order of protected `LDA`s relative to inline
  lines is therefore checked per compiled function (static comparison of the -O0 and -O1 sequences) and by
  co-execution, not by theorem.
-/
import CV.Proofs.OptLemmas
import CV.Gen.Tables
namespace CV.C18
open CV.Gen

/-- An instruction of an arm of `csleepArms` is `(mnemonic, its operand is the compiler's DUMMY cell, it is emitted
    protected)`. DUMMY is in the zero page; an instruction without it has no operand. -/
def armCycles (seq : List (Mn × Bool × Bool)) : Nat :=
  (seq.map fun t => (encCycles t.1 (if t.2.1 then Mode.zp else Mode.impl)).getD 1000).sum

/-- every arm of the csleep table takes exactly its n cycles (DUMMY in the zero page) -/
theorem csleep_cycles : ∀ arm ∈ csleepArms, armCycles arm.2 = arm.1 := by decide

/-- every instruction of a csleep sequence is either emitted `protected` or is the store / decrement of the compiler's
    own DUMMY cell, which no optimiser rule can remove (`STA m` only goes after `LDA m`, and DUMMY cannot be named in a
    program; `DEC` is touched by no rule). An unprotected `PHA` / `PLA` / `NOP` would be open to the peephole rules
    (e.g. `PLA ; PHA` of two adjacent `csleep(7)`). -/
theorem csleep_arms_protected : ∀ arm ∈ csleepArms, ∀ i ∈ arm.2,
    i.2.2 = true ∨ (i.2.1 = true ∧ (i.1 = Mn.STA ∨ i.1 = Mn.DEC)) := by decide

def execSeq (s : Cpu) : List (Mn × Opd) → Option Cpu
  | [] => some s
  | (mn, o) :: r => (s.exec mn o).bind fun s' => execSeq s' r

def armOps (d : Word) (seq : List (Mn × Bool × Bool)) : List (Mn × Opd) :=
  seq.map fun t => (t.1, if t.2.1 then Opd.mem d else Opd.none)

/-- what "changes nothing the program can see" means for a csleep sequence -/
def Harmless (d : Word) (s s' : Cpu) : Prop :=
  s'.a = s.a ∧ s'.x = s.x ∧ s'.y = s.y ∧ s'.sp = s.sp ∧ s'.f.c = s.f.c ∧ s'.f.v = s.f.v ∧
  ∀ a : Word, a ≠ d → a ≠ Cpu.stackAddr s.sp → s'.mem.read a = s.mem.read a

theorem Harmless.refl (d : Word) (s : Cpu) : Harmless d s s :=
  ⟨rfl, rfl, rfl, rfl, rfl, rfl, fun _ _ _ => rfl⟩

theorem Harmless.trans {d : Word} {s s₁ s₂ : Cpu} (h₁ : Harmless d s s₁) (h₂ : Harmless d s₁ s₂) :
    Harmless d s s₂ := by
  obtain ⟨a1, x1, y1, sp1, c1, v1, mem1⟩ := h₁
  obtain ⟨a2, x2, y2, sp2, c2, v2, mem2⟩ := h₂
  -- the byte under the stack pointer is the same one for both parts: the first leaves SP where it was
  exact ⟨a2.trans a1, x2.trans x1, y2.trans y1, sp2.trans sp1, c2.trans c1, v2.trans v1,
    fun a hd hs => (mem2 a hd (sp1 ▸ hs)).trans (mem1 a hd hs)⟩

/-- a sequence that runs from every state and is `Harmless`. Such sequences compose (`Pad.append`), and the arms of the
    table are built from four of them (`pad_nop`, `pad_sta`, `pad_dec`, `pad_pha_pla`) -/
def Pad (d : Word) (ops : List (Mn × Opd)) : Prop :=
  ∀ s, ∃ s', execSeq s ops = some s' ∧ Harmless d s s'

theorem Pad.nil (d : Word) : Pad d [] := fun s => ⟨s, rfl, .refl d s⟩

theorem execSeq_append (s : Cpu) (xs ys : List (Mn × Opd)) :
    execSeq s (xs ++ ys) = (execSeq s xs).bind fun s' => execSeq s' ys := by
  induction xs generalizing s with
  | nil => rfl
  | cons x xs ih => cases h : s.exec x.1 x.2 <;> simp [execSeq, h, ih]

theorem Pad.append {d : Word} {xs ys : List (Mn × Opd)} (hx : Pad d xs) (hy : Pad d ys) : Pad d (xs ++ ys) := by
  intro s
  obtain ⟨s₁, e₁, h₁⟩ := hx s
  obtain ⟨s₂, e₂, h₂⟩ := hy s₁
  exact ⟨s₂, by simp [execSeq_append, e₁, e₂], h₁.trans h₂⟩

theorem pad_nop (d : Word) : Pad d [(.NOP, .none)] := fun s => ⟨s, rfl, .refl d s⟩

theorem pad_sta (d : Word) : Pad d [(.STA, .mem d)] := fun _ =>
  ⟨_, rfl, rfl, rfl, rfl, rfl, rfl, rfl, fun _ h _ => Mem.read_write_other _ _ _ _ (Ne.symm h)⟩

theorem pad_dec (d : Word) : Pad d [(.DEC, .mem d)] := fun _ =>
  ⟨_, rfl, rfl, rfl, rfl, rfl, rfl, rfl, fun _ h _ => Mem.read_write_other _ _ _ _ (Ne.symm h)⟩

theorem pad_pha_pla (d : Word) : Pad d [(.PHA, .none), (.PLA, .none)] := fun s =>
  have a : (s.push s.a).pull.1 = s.a := by simp [Cpu.push, Cpu.pull, BitVec.sub_add_cancel]
  have sp : s.sp - 1 + 1 = s.sp := BitVec.sub_add_cancel ..
  ⟨_, rfl, a, rfl, rfl, sp, rfl, rfl, fun _ _ h => Mem.read_write_other _ _ _ _ (Ne.symm h)⟩

def isPad : List (Mn × Bool × Bool) → Bool
  | [] => true
  | (.NOP, false, _) :: r | (.STA, true, _) :: r | (.DEC, true, _) :: r => isPad r
  | (.PHA, false, _) :: (.PLA, false, _) :: r => isPad r
  | _ => false

theorem pad_of_isPad (d : Word) (seq : List (Mn × Bool × Bool)) : isPad seq = true → Pad d (armOps d seq) := by
  fun_induction isPad seq with
  | case1 => exact fun _ => .nil d
  | case2 _ r ih => exact fun h => (pad_nop d).append (ih h)
  | case3 _ r ih => exact fun h => (pad_sta d).append (ih h)
  | case4 _ r ih => exact fun h => (pad_dec d).append (ih h)
  | case5 _ _ r ih => exact fun h => (pad_pha_pla d).append (ih h)
  | case6 => exact nofun

/-- from every machine state and for every DUMMY address, every arm runs and leaves A, X, Y, SP, C, V and every
    memory cell except DUMMY and the byte under the stack pointer as they were -/
theorem csleep_state (d : Word) (s : Cpu) :
    ∀ arm ∈ csleepArms, ∃ s', execSeq s (armOps d arm.2) = some s' ∧ Harmless d s s' :=
  fun arm h => pad_of_isPad d arm.2 ((by decide : ∀ arm ∈ csleepArms, isPad arm.2 = true) arm h) s

/-- the optimiser overwrites lines, it never inserts or deletes one -/
theorem optimize_length (c : Code) : (optimize c).1.length = c.length :=
  (optimize_inv c).size

/-- the optimiser neither moves nor touches labels, inline lines, comments -/
theorem optimize_keeps_nonInstr (c : Code) (i : Nat) (l : Line)
    (h : c[i]? = some l) (hn : NonInstr l = true) : (optimize c).1[i]? = some l :=
  (optimize_inv c).fixed i l h hn

/-- inline lines and protected instructions (`Kept`: all but the protected compares, `LDA`, `CLC`, `SEC` the optimiser may
    fold) are neither removed, duplicated nor reordered -/
theorem explicit_accesses_preserved (c : Code) :
    (optimize c).1.filter Kept = c.filter Kept :=
  (optimize_inv c).kept

def ins (mn : Mn) (opd : String := "") (prot : Bool := false) : Line :=
  .instr { mn := mn, opd := opd, prot := prot }

/-- the compare-folding rule ignores `protected` on the compare -/
theorem protected_cmp_removed_witness :
    (optimize [ins .LDA "#3", ins .CMP "#3" true, ins .BNE ".l", ins .RTS]).1
      = [ins .LDA "#3", .dummy, .dummy, ins .RTS] := by decide +kernel

/-- a protected `LDA` followed by `CLC` changes place with it -/
theorem swap_moves_protected_lda_witness :
    (optimize [ins .LDA "v" true, .comment "c", ins .CLC, ins .RTS]).1
      = [ins .CLC, .comment "c", ins .LDA "v" true, ins .RTS] := by decide +kernel

/-- inline assembly is a barrier: the swap never crosses an inline line -/
theorem swap_stops_at_inline_witness :
    (optimize [ins .LDA "v" true, .inline "NOP" 1, ins .CLC, ins .RTS]).1
      = [ins .LDA "v" true, .inline "NOP" 1, ins .CLC, ins .RTS] := by decide +kernel

/-- `DEC` of the DUMMY cell changes Z: the arms built from it are not flag-neutral -/
theorem dec_changes_flags_witness :
    ∃ s : Cpu, ∃ s', s.exec .DEC (.mem 0x2d) = some s' ∧ s'.f.z ≠ s.f.z := by
  refine ⟨{ f := { z := true } }, _, rfl, ?_⟩
  decide +kernel

example : (2, [(Mn.NOP, false, true)]) ∈ csleepArms := by decide
example : Kept (ins .STA "REG" true) = true ∧ Kept (.inline "NOP" 1) = true ∧ Kept (ins .STA "REG") = false := by decide
example : ((optimize [ins .LDA "v" true, ins .STA "v" true, ins .LDA "v", ins .STA "w"]).1).filter Kept
    = [ins .STA "v" true] := by decide +kernel

end CV.C18
