/-
  Property C09 — string and character literals are stored byte-exact.
  Models: CV.Lit (decoding over the escape table translated from compile_quoted_string_ex on this
  run), CV.Cpp.findClose (the closing-quote search of the literal extraction of cpp::process).
  Specification: `cEscape`, C's codes of the escapes the property names (\n \r \t \a \b \f \v \0 \\ \"); a literal
  body is a list of `Item`s (plain character or escape) and `printAll` its text, so "every body" is every list.
  The scanner looks back two characters: it finds the closing quote of every body that meets `ScannerOK`, whatever
  follows the literal; `odd_backslashes_witness` shows how it is fooled otherwise.
  Not proved: the opacity of markers through macro replacement — covered by the differential correspondence
  (hook H2) and by end-to-end compilation of literals in every syntactic position.
-/
import CV.Lit
import CV.Cpp
namespace CV.C09
open CV.Lit CV.Cpp

def cEscape : Char → Option Nat
  | 'n' => some 10 | 'r' => some 13 | 't' => some 9 | 'a' => some 7 | 'b' => some 8
  | 'f' => some 12 | 'v' => some 11 | '0' => some 0 | '\\' => some 92 | '"' => some 34
  | _ => none

inductive Item
  | plain (c : Char)
  | esc (c : Char)

/-- what decoding asks of an item: a plain character is no backslash (it may be a quote: finding the end of the body
    is the scanner's business, see `Item.bodyOK`), an escape is one of the property's -/
def Item.wf : Item → Prop
  | .plain c => c ≠ '\\'
  | .esc c => (cEscape c).isSome

def Item.print : Item → List Char
  | .plain c => [c]
  | .esc c => ['\\', c]

def Item.code : Item → Nat
  | .plain c => c.toNat
  | .esc c => (cEscape c).getD 0

def printAll (is : List Item) : List Char := (is.map Item.print).flatten

theorem printAll_cons (i : Item) (b : List Item) : printAll (i :: b) = i.print ++ printAll b := rfl

theorem printAll_append (a b : List Item) : printAll (a ++ b) = printAll a ++ printAll b := by
  simp [printAll]

/-- the model's table (`escapeArms`, with the default arm for `\\` and `\"`) is C's wherever C's is defined -/
theorem esc_lookup (c : Char) (h : (cEscape c).isSome) : escCode c = (cEscape c).getD 0 := by
  unfold cEscape at h ⊢
  split at h <;> first | decide | cases h

theorem decode_plain (c : Char) (r : List Char) (h : c ≠ '\\') : decode (c :: r) = c.toNat :: decode r := by
  simp [decode, decodeGo, h]

theorem decode_esc (d : Char) (r : List Char) : decode ('\\' :: d :: r) = escCode d :: decode r := by
  simp [decode, decodeGo]

theorem decode_item (i : Item) (h : i.wf) (r : List Char) : decode (i.print ++ r) = i.code :: decode r := by
  cases i with
  | plain c => exact decode_plain c r h
  | esc c => exact (decode_esc c r).trans (by rw [esc_lookup c h]; rfl)

/-- decoding is C's: every escape of the property's list and every plain character -/
theorem decode_correct (is : List Item) (h : ∀ i ∈ is, i.wf) :
    decode (printAll is) = is.map Item.code := by
  induction is with
  | nil => rfl
  | cons i rest ih =>
    rw [printAll_cons, decode_item i (h i (by simp)), ih (fun j hj => h j (by simp [hj]))]; rfl

theorem stored_is_decode_nul (lits : List (List Char)) :
    stored lits = (lits.map decode).flatten ++ [0] := rfl

theorem char_const_plain (c : Char) (h : c ≠ '\\') : charConst [c] = some c.toNat := by
  rw [charConst, decode_plain c [] h]; rfl

theorem char_const_escape (c : Char) (h : (cEscape c).isSome) : charConst ['\\', c] = cEscape c := by
  rw [charConst, decode_esc, esc_lookup c h]
  cases hc : cEscape c <;> simp_all

theorem splitOnce_char (c : Char) (body post : List Char) (h : c ∉ body) :
    splitOnce [c] (body ++ c :: post) = some (body, post) := by
  induction body with
  | nil => simp [splitOnce]
  | cons x xs ih =>
    have hx : (c == x) = false := beq_false_of_ne fun e => h (by simp [e])
    simp [splitOnce, List.isPrefixOf, hx, ih fun e => h (by simp [e])]

/-- one round of the scanner, at the first quote of the text -/
theorem findClose_step (f : Nat) (left rest : List Char) (h : '"' ∉ left) :
    findClose (f + 1) (left ++ '"' :: rest) =
      if !endsWith left ['\\'] then some left.length
      else if endsWith left ['\\', '\\'] then some left.length
      else (findClose f rest).map (· + left.length + 1) := by
  rw [findClose, splitOnce_char _ _ _ h]

theorem endsWith_snoc (s : List Char) (c d : Char) : endsWith (s ++ [c]) [d] = (d == c) := by
  simp [endsWith, List.isSuffixOf, List.isPrefixOf]

theorem endsWith_snoc2 (s : List Char) (c e d : Char) :
    endsWith (s ++ [c]) [e, d] = (d == c && endsWith s [e]) := by
  simp [endsWith, List.isSuffixOf, List.isPrefixOf]

/-- `List.eq_nil_or_concat` with `r ++ [i]` for `concat` -/
theorem snoc_cases {α : Type} (l : List α) : l = [] ∨ ∃ r i, l = r ++ [i] := by
  rcases List.eq_nil_or_concat l with h | ⟨r, i, h⟩
  · exact Or.inl h
  · exact Or.inr ⟨r, i, by simpa using h⟩

theorem endsWith_bs_false (body : List Char) (h : '\\' ∉ body) : endsWith body ['\\'] = false := by
  rcases snoc_cases body with rfl | ⟨r, c, rfl⟩
  · rfl
  · rw [endsWith_snoc]; exact beq_false_of_ne fun e => h (by simp [← e])

theorem findClose_close (f : Nat) (left rest : List Char) (hq : '"' ∉ left)
    (h : endsWith left ['\\'] = true → endsWith left ['\\', '\\'] = true) :
    findClose (f + 1) (left ++ '"' :: rest) = some left.length := by
  rw [findClose_step _ _ _ hq]
  cases hb : endsWith left ['\\'] with
  | false => rfl
  | true => rw [h hb]; rfl

theorem findClose_skip (f : Nat) (a rest : List Char) (hq : '"' ∉ a) (hb : endsWith a ['\\'] = false) :
    findClose (f + 1) (a ++ '\\' :: '"' :: rest) = (findClose f rest).map (· + (a.length + 1) + 1) := by
  rw [List.append_cons, findClose_step _ _ _ (by simp [hq]), endsWith_snoc, endsWith_snoc2, hb]; simp

/-- a body without quotes and backslashes — whatever else it contains: `//`, `/* */`, `#define`,
    macro names — ends exactly at its closing quote -/
theorem findClose_plain (body post : List Char) (n : Nat) (hq : '"' ∉ body) (hb : '\\' ∉ body) :
    findClose (n + 1) (body ++ '"' :: post) = some body.length :=
  findClose_close n body post hq fun h => by rw [endsWith_bs_false body hb] at h; cases h

/-- an escaped quote inside the body is skipped (the body before it free of quotes/backslashes) -/
theorem findClose_escaped_quote (a b post : List Char) (n : Nat)
    (ha1 : '"' ∉ a) (ha2 : '\\' ∉ a) (hb1 : '"' ∉ b) (hb2 : '\\' ∉ b) :
    findClose (n + 2) (a ++ '\\' :: '"' :: (b ++ '"' :: post)) = some (a.length + 2 + b.length) := by
  rw [findClose_skip _ _ _ ha1 (endsWith_bs_false a ha2), findClose_plain b post n hb1 hb2]
  simp; omega

def Item.isQuoteEsc : Item → Bool
  | .esc c => c == '"'
  | _ => false

def Item.isBsEsc : Item → Bool
  | .esc c => c == '\\'
  | _ => false

/-- what the scanner asks of an item: `Item.wf`, and a plain character is no quote either -/
def Item.bodyOK : Item → Prop
  | .plain c => c ≠ '\\' ∧ c ≠ '"'
  | .esc c => (cEscape c).isSome

def lastIsBs (a : List Item) : Bool :=
  match a.getLast? with
  | some i => i.isBsEsc
  | none => false

/-- the scanner's precondition (its look-back is two characters): an escaped quote never directly follows an
    escaped backslash -/
def ScannerOK (is : List Item) : Prop := ∀ a b i, is = a ++ i :: b → i.isQuoteEsc = true → lastIsBs a = false

theorem lastIsBs_snoc (l : List Item) (z : Item) : lastIsBs (l ++ [z]) = z.isBsEsc := by simp [lastIsBs]

theorem ScannerOK.suffix {a b : List Item} (h : ScannerOK (a ++ b)) : ScannerOK b := by
  intro x y i e hq
  have := h (a ++ x) y i (by simp [e]) hq
  rcases snoc_cases x with rfl | ⟨r, z, rfl⟩
  · rfl
  · rwa [← List.append_assoc, lastIsBs_snoc, ← lastIsBs_snoc r] at this

theorem Item.eq_of_isQuoteEsc {i : Item} (h : i.isQuoteEsc = true) : i = .esc '"' := by
  cases i with
  | plain c => cases h
  | esc c => rw [eq_of_beq h]

theorem Item.quote_not_mem_print {i : Item} (h : i.bodyOK) (hq : i.isQuoteEsc = false) : '"' ∉ i.print := by
  cases i with
  | plain c => simpa [Item.print] using h.2.symm
  | esc c =>
    have : c ≠ '"' := ne_of_beq_false hq
    simpa [Item.print] using this.symm

theorem quote_free (a : List Item) (h : ∀ i ∈ a, i.bodyOK ∧ i.isQuoteEsc = false) : '"' ∉ printAll a := by
  simp only [printAll, List.mem_flatten, List.mem_map]
  rintro ⟨_, ⟨i, hi, rfl⟩, hm⟩
  exact Item.quote_not_mem_print (h i hi).1 (h i hi).2 hm

/-- behind a well-formed item the text ends in a backslash exactly when the item is `\\`, and then in two -/
theorem ends_item (s : List Char) (i : Item) (h : i.bodyOK) :
    endsWith (s ++ i.print) ['\\'] = i.isBsEsc ∧ endsWith (s ++ i.print) ['\\', '\\'] = i.isBsEsc := by
  cases i with
  | plain c =>
    have : ('\\' == c) = false := beq_false_of_ne (Ne.symm h.1)
    rw [Item.print, endsWith_snoc, endsWith_snoc2, this]; exact ⟨rfl, rfl⟩
  | esc c =>
    rw [Item.print, List.append_cons, endsWith_snoc, endsWith_snoc2, endsWith_snoc, Bool.beq_comm]
    simp [Item.isBsEsc]

theorem ends_bs (a : List Item) (h : ∀ i ∈ a, i.bodyOK) :
    endsWith (printAll a) ['\\'] = lastIsBs a ∧ endsWith (printAll a) ['\\', '\\'] = lastIsBs a := by
  rcases snoc_cases a with rfl | ⟨r, i, rfl⟩
  · exact ⟨rfl, rfl⟩
  · have e : printAll (r ++ [i]) = printAll r ++ i.print := by simp [printAll]
    rw [e, lastIsBs_snoc]
    exact ends_item _ i (h i (by simp))

/-- EVERY body of plain characters and escapes that meets the scanner's precondition is closed exactly at its
    closing quote, whatever follows; each round of the scanner passes one escaped quote -/
theorem findClose_printAll (post : List Char) (fuel : Nat) (is : List Item)
    (hf : is.countP Item.isQuoteEsc < fuel) (his : ∀ i ∈ is, i.bodyOK) (hok : ScannerOK is) :
    findClose fuel (printAll is ++ '"' :: post) = some (printAll is).length := by
  induction fuel generalizing is with
  | zero => cases hf
  | succ f ih =>
    cases hx : is.find? Item.isQuoteEsc with
    | none =>
      -- no escaped quote: the first quote is the closing one; one backslash before it means two
      have hq : ∀ i ∈ is, i.isQuoteEsc = false := by simpa using hx
      have he := ends_bs is his
      exact findClose_close _ _ _ (quote_free is fun i hi => ⟨his i hi, hq i hi⟩) (by rw [he.1, he.2]; exact id)
    | some x =>
      -- the first quote belongs to the first escaped quote, which `ScannerOK` lets the scanner pass
      obtain ⟨hxq, a, b, rfl, ha⟩ := List.find?_eq_some_iff_append.mp hx
      have ha' : ∀ i ∈ a, i.bodyOK ∧ i.isQuoteEsc = false := fun i hi =>
        ⟨his i (by simp [hi]), by simpa using ha i hi⟩
      have hnb : endsWith (printAll a) ['\\'] = false :=
        (ends_bs a fun i hi => (ha' i hi).1).1.trans (hok a b x rfl hxq)
      have hok' : ScannerOK b := ScannerOK.suffix (a := a ++ [x]) (by simpa using hok)
      rw [Item.eq_of_isQuoteEsc hxq] at hf ⊢
      have e : printAll (a ++ .esc '"' :: b) ++ '"' :: post
          = printAll a ++ '\\' :: '"' :: (printAll b ++ '"' :: post) := by
        simp [printAll_append, printAll_cons, Item.print]
      rw [e, findClose_skip _ _ _ (quote_free a ha') hnb,
        ih b (by simp [Item.isQuoteEsc] at hf; omega) (fun i hi => his i (by simp [hi])) hok']
      simp [printAll_append, printAll_cons, Item.print]; omega

/-- a body given in two parts, `a` free of escaped quotes and then `is`: its closing quote is found with one round per
    item of `is` and one more (`findClose_printAll` counts the rounds in escaped quotes) -/
theorem findClose_body (post : List Char) : ∀ (is a : List Item) (fuel : Nat), is.length < fuel →
    (∀ i ∈ a, i.bodyOK ∧ i.isQuoteEsc = false) → (∀ i ∈ is, i.bodyOK) → ScannerOK (a ++ is) →
    findClose fuel (printAll a ++ printAll is ++ '"' :: post) = some ((printAll a).length + (printAll is).length) := by
  intro is a fuel hf ha his hok
  have h0 : a.countP Item.isQuoteEsc = 0 := List.countP_eq_zero.mpr fun i hi => by simp [(ha i hi).2]
  have hc : (a ++ is).countP Item.isQuoteEsc < fuel := by
    rw [List.countP_append, h0]; exact Nat.lt_of_le_of_lt (by simpa using List.countP_le_length) hf
  have := findClose_printAll post fuel (a ++ is) hc
    (fun i hi => (List.mem_append.mp hi).elim (fun h => (ha i h).1) (his i)) hok
  rwa [printAll_append, List.length_append] at this

/-- every literal body that meets the scanner's precondition is found exactly: given one round per item and one more,
    `findClose` stops at the closing quote, whatever follows it -/
theorem literal_extracted (is : List Item) (post : List Char) (h : ∀ i ∈ is, i.bodyOK) (hok : ScannerOK is) :
    findClose (is.length + 1) (printAll is ++ '"' :: post) = some (printAll is).length :=
  findClose_printAll post _ is (Nat.lt_succ_of_le List.countP_le_length) h hok

/-- the precondition as a check on adjacent items -/
def scannerOKb : List Item → Bool
  | a :: b :: r => !(a.isBsEsc && b.isQuoteEsc) && scannerOKb (b :: r)
  | _ => true

theorem scannerOKb_tail (x : Item) (l : List Item) (h : scannerOKb (x :: l) = true) : scannerOKb l = true := by
  cases l with
  | nil => rfl
  | cons y r => rw [scannerOKb, Bool.and_eq_true] at h; exact h.2

theorem scannerOKb_mid (z i : Item) (b : List Item) : ∀ p : List Item,
    scannerOKb (p ++ z :: i :: b) = true → (z.isBsEsc && i.isQuoteEsc) = false
  | [], h => by rw [List.nil_append, scannerOKb, Bool.and_eq_true, Bool.not_eq_true'] at h; exact h.1
  | x :: p, h => scannerOKb_mid z i b p (scannerOKb_tail x _ h)

/-- the check suffices for `ScannerOK`: the way to meet the precondition for a concrete body -/
theorem scannerOK_of_b (is : List Item) (h : scannerOKb is = true) : ScannerOK is := by
  intro a b i he hq
  subst he
  rcases snoc_cases a with rfl | ⟨a', z, rfl⟩
  · rfl
  · have := scannerOKb_mid z i b a' (by simpa using h)
    simpa [lastIsBs_snoc, hq] using this

/-! non-vacuity: `a\\b\"\n` (escaped backslash, then a plain character, then an escaped quote) meets the precondition;
    the witness `\\\"` does not -/
example : ScannerOK [.plain 'a', .esc '\\', .plain 'b', .esc '"', .esc 'n'] := scannerOK_of_b _ (by decide)
example : scannerOKb [.esc '\\', .esc '"'] = false := by decide
example : findClose 6 (printAll [.plain 'a', .esc '\\', .plain 'b', .esc '"', .esc 'n'] ++ '"' :: [' ', 'x'])
    = some 8 := by decide

/-- what the look-back cannot see: backslash-backslash-backslash-quote inside a body closes it -/
theorem odd_backslashes_witness :
    findClose 10 "a\\\\\\\"b\" rest".toList = some 4 := by
  rw [String.toList_ofList] -- why: see the note in C08
  decide

example : decode "a\\n\\\"b\\\\".toList = [97, 10, 34, 98, 92] := by rw [String.toList_ofList]; decide
example : findClose 5 "// not a comment /* #define X */\" tail".toList = some 32 := by rw [String.toList_ofList]; decide

end CV.C09
