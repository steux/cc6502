/-
  Property C13 — emitted assembly always assembles.
  Models: CV.AsmSel (modes), CV.Inline (label renaming on inline expansion), CV.Branch (.fix labels), CV.GenStruct
  (the generator's own labels, on the fragment whose port is tied text-exactly to the real -O0 output: blocks, if,
  if/else, while, do-while, for, break/continue, `&&`/`||`, any nesting).
  Labels of inline expansions: renaming is (l, n) ↦ l ++ "inline" ++ n (`rename_injective`, `pushes_nodup`;
  `push_refs_closed` is a single step, not carried over sequences). Labels of the generator: distinct, also as text
  (`.ifend12` against `.ifend1` + `2`: `append_toString_inj`), and every branch or jump target is defined in the same
  code — both read off the one invariant `gen_tidy`. Modes: `legal_modes` is C04's table theorem restated.
  Not proved: label discipline of the generator outside that fragment (`switch`, for one); it is checked on
  every compiled function by the independent front end (labels defined once, references defined, every line
  assembles).
-/
import CV.Inline
import CV.Props.C04
import CV.Proofs.GenStructLabels
import CV.Proofs.TextLemmas
namespace CV.C13

/-- renaming is injective in the pair (label, counter) -/
theorem rename_injective (l₁ l₂ : String) (n₁ n₂ : Nat)
    (h : l₁ ++ suffixOf n₁ = l₂ ++ suffixOf n₂) : l₁ = l₂ ∧ n₁ = n₂ := by
  have hi : EndsNonDigit "inline" := ⟨'e', by simp, rfl⟩
  simp only [suffixOf, ← String.append_assoc] at h
  obtain ⟨hl, hn⟩ := append_toString_inj (hi.append l₁) (hi.append l₂) h
  refine ⟨String.toList_inj.mp (List.append_cancel_right (bs := ("inline" : String).toList) ?_), hn⟩
  simpa using congrArg String.toList hl

/-- labels of different long-branch repairs differ -/
theorem fix_labels_distinct (a b : Nat) (h : ".fix" ++ toString a = ".fix" ++ toString b) : a = b :=
  (append_toString_inj ⟨'x', by simp, rfl⟩ ⟨'x', by simp, rfl⟩ h).2

theorem fixup_labels_distinct (a b : Nat) (h : ".fixup" ++ toString a = ".fixup" ++ toString b) : a = b :=
  (append_toString_inj ⟨'p', by simp, rfl⟩ ⟨'p', by simp, rfl⟩ h).2

theorem labelsOf_append (a b : Code) : labelsOf (a ++ b) = labelsOf a ++ labelsOf b := by
  induction a with
  | nil => rfl
  | cons x xs ih => cases x <;> simp [labelsOf, ih]

theorem refsOf_append (a b : Code) : refsOf (a ++ b) = refsOf a ++ refsOf b := by
  induction a with
  | nil => rfl
  | cons x xs ih => cases x <;> simp only [List.cons_append, refsOf, ih] <;> split <;> rfl

theorem labelsOf_map_rename (c : Code) (n : Nat) :
    labelsOf (c.map (renameLine n)) = (labelsOf c).map (· ++ suffixOf n) := by
  induction c with
  | nil => rfl
  | cons x xs ih => cases x <;> simp only [List.map_cons, renameLine] <;> (try split) <;> simp [labelsOf, ih]

theorem refsOf_map_rename (c : Code) (n : Nat) :
    refsOf (c.map (renameLine n)) = (refsOf c).map (· ++ suffixOf n) := by
  induction c with
  | nil => rfl
  | cons x xs ih => cases x <;> simp only [List.map_cons, renameLine] <;> (try split) <;> simp_all [refsOf]

theorem endof_eq (n : Nat) : ".endofinline" ++ toString n = ".endof" ++ suffixOf n := by
  rw [suffixOf, ← String.append_assoc]; rfl

theorem labelsOf_push (caller callee : Code) (n : Nat) :
    labelsOf (pushCode caller callee n) = labelsOf caller ++ (labelsOf callee ++ [".endof"]).map (· ++ suffixOf n) := by
  simp only [pushCode, endof_eq]
  simp [appendCode, labelsOf_append, labelsOf_map_rename, labelsOf]

/-- no label of `c` has the shape `x ++ "inline" ++ m` for a counter `m ≥ n` -/
def FreshFrom (n : Nat) (c : Code) : Prop :=
  ∀ l ∈ labelsOf c, ∀ m, n ≤ m → ∀ x : String, l ≠ x ++ suffixOf m

theorem push_labels_nodup (caller callee : Code) (n : Nat)
    (h1 : (labelsOf caller).Nodup) (h2 : (labelsOf callee).Nodup)
    (h3 : ".endof" ∉ labelsOf callee) (hf : FreshFrom n caller) :
    (labelsOf (pushCode caller callee n)).Nodup := by
  rw [labelsOf_push, List.nodup_append]
  refine ⟨h1, ?_, ?_⟩
  · have : (labelsOf callee ++ [".endof"]).Nodup :=
      List.nodup_append.mpr ⟨h2, by simp, fun a ha b hb e => h3 (by simp_all)⟩
    exact List.Pairwise.map _ (fun a b hab e => hab (rename_injective a b n n e).1) this
  · intro a ha b hb e
    obtain ⟨x, _, hx⟩ := List.mem_map.mp hb
    exact hf a ha n (Nat.le_refl _) x (e.trans hx.symm)

theorem push_keeps_later_fresh (caller callee : Code) (n : Nat) (hf : FreshFrom n caller) :
    FreshFrom (n + 1) (pushCode caller callee n) := by
  intro l hl m hm x e
  rw [labelsOf_push] at hl
  rcases List.mem_append.mp hl with hl | hl
  · exact hf l hl m (by omega) x e
  · obtain ⟨y, _, hy⟩ := List.mem_map.mp hl
    have := (rename_injective y x n m (hy.trans e)).2
    omega

/-- after any sequence of expansions with increasing counters n, n+1, … into a caller with unique labels, none of
    them of the shape `… inline<m>` for m ≥ n, the labels are still unique (each callee may itself be the result of
    earlier expansions: only uniqueness of its labels and absence of `.endof` are used) -/
theorem pushes_nodup (callees : List Code) :
    ∀ (caller : Code) (n : Nat), (labelsOf caller).Nodup → FreshFrom n caller →
      (∀ c ∈ callees, (labelsOf c).Nodup ∧ ".endof" ∉ labelsOf c) →
      (labelsOf ((callees.zipIdx n).foldl (fun acc p => pushCode acc p.1 p.2) caller)).Nodup := by
  induction callees with
  | nil => intro caller n h _ _; simpa using h
  | cons c cs ih =>
    intro caller n h hf hc
    simp only [List.zipIdx_cons, List.foldl_cons]
    have hc0 := hc c (by simp)
    exact ih _ (n + 1) (push_labels_nodup caller c n h hc0.1 hc0.2 hf)
      (push_keeps_later_fresh caller c n hf) (fun c' hc' => hc c' (by simp [hc']))

/-- one expansion keeps the callee's references closed: whatever its branches and jumps referred to — one of its
    own labels, or `.endof` (the inline return) — is, renamed, a label defined in the expanded caller -/
theorem push_refs_closed (caller callee : Code) (n : Nat)
    (hc : ∀ r ∈ refsOf callee, r ∈ labelsOf callee ∨ r = ".endof") :
    ∀ r ∈ refsOf (callee.map (renameLine n)), r ∈ labelsOf (pushCode caller callee n) := by
  intro r hr
  rw [refsOf_map_rename] at hr
  obtain ⟨r0, hr0, rfl⟩ := List.mem_map.mp hr
  rw [labelsOf_push]
  exact List.mem_append_right _ (List.mem_map_of_mem (by simpa using hc r0 hr0))

/-- modes: a successful applicable call of `asm()` outside the unguarded list has an encoding -/
theorem legal_modes (mn : Mn) (hmn : mn ∈ C04.asmMns) (k : OKind) (ty : VType) (c zp s1 e h : Bool)
    (f : Form) (nb cyc : Nat) (alt : Option Nat)
    (hs : selA mn k ty c zp s1 e h = SelA.ok f nb cyc alt) (ha : applicable mn f = true)
    (hu : C04.unguardedRMW mn f = false) :
    (modeOfForm mn f zp).isSome = true := by
  obtain ⟨m, hm, _⟩ := C04.selA_size_mode mn hmn k ty c zp s1 e h f nb cyc alt hs ha hu
  simp [hm]

/-! non-vacuity: the same callee expanded twice -/
def callee : Code := [.label ".a", mkBranch .BNE ".a", mkJmp ".endof"]
example : labelsOf (pushCode (pushCode [.label ".m"] callee 1) callee 2)
    = [".m", ".ainline1", ".endofinline1", ".ainline2", ".endofinline2"] := by decide +kernel
example : FreshFrom 1 [Line.label ".m"] := by
  intro l hl m _ x e
  simp [labelsOf] at hl
  subst hl
  have := congrArg String.length e
  simp [suffixOf, String.length_append, show (".m" : String).length = 2 by decide,
    show ("inline" : String).length = 6 by decide] at this
  omega

open CV.GenStruct

theorem kind_text_ends (k : LKind) : EndsNonDigit k.text := by
  cases k <;> simp [EndsNonDigit, LKind.text]

theorem kind_text_inj {a b : LKind} (h : a.text = b.text) : a = b := by
  cases a <;> cases b <;> simp [LKind.text] at h ⊢

/-- label text determines the label: distinct (kind, counter) pairs never collide as text -/
theorem label_text_injective (l₁ l₂ : Lbl) (h : l₁.text = l₂.text) : l₁ = l₂ := by
  obtain ⟨k₁, n₁⟩ := l₁
  obtain ⟨k₂, n₂⟩ := l₂
  obtain ⟨hk, rfl⟩ : k₁.text = k₂.text ∧ n₁ = n₂ :=
    append_toString_inj (kind_text_ends k₁) (kind_text_ends k₂) h
  rw [kind_text_inj hk]

/-- as text: no two label lines of a statement's code carry the same label -/
theorem gen_label_texts_nodup (st : SStmt) (lp : LoopCtx) (g : GState) : ((labels (gen lp g st).1).map Lbl.text).Nodup :=
  List.Pairwise.map Lbl.text (fun a b hab e => hab (label_text_injective a b e)) (gen_tidy st lp g).nodup

/-- no branch or jump of a function body leaves the code: every target is a label defined in it (a `break` or
    `continue` inside a loop of the body goes to that loop's labels; outside every loop none is generated) -/
theorem gen_targets_defined (st : SStmt) (g : GState) : ∀ l ∈ targets (gen none g st).1, l ∈ labels (gen none g st).1 :=
  fun l hl => ((gen_tidy st none g).closed l hl).resolve_right (by simp [extTargets])

end CV.C13
