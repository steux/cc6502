/-
  Property C11 — comments, layout and listing options never affect behaviour.
  Model: CV.Cpp.scanLine (comment removal of cpp::process), CV.Opt (listing comments).

  The scanner at the three places where a comment begins or ends, each resting on the search primitive finding the
  FIRST occurrence (`splitOnce_first`); and listing comments (`--insert_code`) stay where they are (from the loop
  invariant `OptInv`), so they can only make the optimiser remove less.
  Not proved: token-level invariance under blanks/tabs/splices (pest's WHITESPACE rule, trusted) and that fewer
  peephole removals preserve behaviour (C02's co-execution); both are covered by the decorated-twin comparison of the
  check.
-/
import CV.Cpp
import CV.Proofs.OptLemmas
namespace CV.C11
open CV.Cpp

/-- `pat` occurs in `a ++ pat ++ b` first at position `a.length` -/
def FirstAt (pat a b : Str) : Prop :=
  ∀ j, j < a.length → pat.isPrefixOf ((a ++ pat ++ b).drop j) = false

/-- the search primitive returns the FIRST occurrence of the pattern -/
theorem splitOnce_first (pat : Str) (hp : pat ≠ []) :
    ∀ (a b : Str), FirstAt pat a b → splitOnce pat (a ++ pat ++ b) = some (a, b) := by
  intro a
  induction a with
  | nil =>
    intro b _
    cases pat with
    | nil => exact absurd rfl hp
    | cons p ps => simp [splitOnce, List.isPrefixOf]
  | cons x xs ih =>
    intro b h
    have h0 : pat.isPrefixOf (x :: (xs ++ pat ++ b)) = false := by simpa using h 0 (by simp)
    have hrec : FirstAt pat xs b := fun j hj => by simpa using h (j + 1) (by simpa using hj)
    simp only [List.cons_append, splitOnce, h0, Bool.false_eq_true, if_false, ih b hrec]

/-- a test for `pat` reads at most `pat.length` characters -/
theorem isPrefixOf_append_of_le (pat l b : Str) (h : pat.length ≤ l.length) :
    pat.isPrefixOf (l ++ b) = pat.isPrefixOf l := by
  induction pat generalizing l with
  | nil => simp
  | cons p ps ih =>
    cases l with
    | nil => simp at h
    | cons c cs => simp only [List.cons_append, List.isPrefixOf, ih cs (by simpa using h)]

theorem FirstAt.indep {pat a b : Str} (h : FirstAt pat a b) (x : Str) : FirstAt pat a x := by
  intro j hj
  have e : ∀ y : Str, (a ++ pat ++ y).drop j = (a ++ pat).drop j ++ y := fun y => by
    rw [List.drop_append_of_le_length (by simp; omega)]
  have hl : pat.length ≤ ((a ++ pat).drop j).length := by simp; omega
  rw [e, isPrefixOf_append_of_le _ _ _ hl, ← isPrefixOf_append_of_le _ _ b hl, ← e]
  exact h j hj

/-- inside a block comment the scanner resumes right after the first `*/`, whatever the comment holds before it
    (quotes, `//`, `/*`, directives, URLs) -/
theorem comment_closes_at_first (asm : Bool) (lb fuel : Nat) (body after acc : Str) (ins : Bool)
    (lits : List Str) (h : FirstAt ['*', '/'] body after) (h1 : after ≠ []) (h2 : after ≠ ['\n']) :
    scanLine asm lb (fuel + 1) true (body ++ ['*', '/'] ++ after) acc ins lits
      = scanLine asm lb fuel false after acc true lits := by
  have hs := splitOnce_first ['*', '/'] (by simp) body after h
  obtain ⟨c, cs, hr⟩ : ∃ c cs, body ++ ['*', '/'] ++ after = c :: cs := by cases body <;> exact ⟨_, _, rfl⟩
  rw [hr] at hs ⊢
  have e1 : after.isEmpty = false := by cases after <;> first | exact absurd rfl h1 | rfl
  have e2 : (after == ['\n']) = false := by simpa using h2
  simp [scanLine, hs, e1, e2]

/-- the text the scanner searches for `/*`: the line up to its first `//` -/
def beforeLine (rem : Str) : Str := match splitOnce ['/', '/'] rem with | some (b, _) => b | none => rem

theorem beforeLine_cons (c : Char) (s : Str) (h : ['/', '/'].isPrefixOf (c :: s) = false) :
    beforeLine (c :: s) = c :: beforeLine s := by
  simp only [beforeLine, splitOnce, h, Bool.false_eq_true, if_false]
  cases splitOnce ['/', '/'] s <;> rfl

theorem beforeLine_keeps (rest : Str) : ∀ (s2 : Str),
    (∀ j, j < s2.length → ['/', '/'].isPrefixOf ((s2 ++ ['/', '*'] ++ rest).drop j) = false) →
    beforeLine (s2 ++ ['/', '*'] ++ rest) = s2 ++ ['/', '*'] ++ beforeLine rest := by
  intro s2
  induction s2 with
  | nil =>
    intro _
    cases rest <;> simp [beforeLine_cons, List.isPrefixOf]
  | cons c cs ih =>
    intro h
    have h0 : ['/', '/'].isPrefixOf (c :: (cs ++ ['/', '*'] ++ rest)) = false := by simpa using h 0 (by simp)
    rw [List.cons_append, List.cons_append, beforeLine_cons _ _ h0,
      ih fun j hj => by simpa using h (j + 1) (by simpa using hj)]
    rfl

/-- outside a comment: the scanner cuts the line at its first `//`, the piece before that at its first `/*` (`s2` is
    what is left, `after` the remainder of the line behind the `/*`), and, when `s2` holds no quote, keeps `s2` and goes
    on inside the comment or is done with the line -/
theorem scanLine_code (asm : Bool) (lb fuel : Nat) {rem s2 : Str} {after : Option Str} (acc : Str) (ins : Bool)
    (lits : List Str) (hne : rem ≠ [])
    (hs : (match splitOnce ['/', '*'] (beforeLine rem) with
           | some (b, _) => (b, some (rem.drop (b.length + 2)))
           | none => (beforeLine rem, none)) = (s2, after))
    (hq : splitOnce ['"'] s2 = none) :
    scanLine asm lb (fuel + 1) false rem acc ins lits =
      match after with
      | some a => scanLine asm lb fuel true a (acc ++ s2) (if (acc ++ s2).isEmpty then false else ins) lits
      | none => .ok { text := acc ++ s2, insertIt := if (acc ++ s2).isEmpty then false else ins,
                      inComment := false, literals := lits } := by
  obtain ⟨c, cs, rfl⟩ : ∃ c cs, rem = c :: cs := by cases rem <;> first | exact absurd rfl hne | exact ⟨_, _, rfl⟩
  unfold beforeLine at hs
  -- `scanLine` spells `beforeLine` out with a `match` of its own: decide that search for `//` (`h3`; the steps are the
  -- same whether it finds one), then the one for `/*` in what it leaves (`h4`), and `scanLine` unfolds to the
  -- right-hand side
  cases h3 : splitOnce ['/', '/'] (c :: cs) with
  | none | some p =>
    simp only [h3] at hs
    split at hs
    -- a `/*` is found, `s2` being the piece before it and `after = some _`, or none is, `after = none`
    all_goals
      rename_i h4
      cases hs
      simp only [scanLine, h3, h4, hq, Option.map_none, ite_self]

/-- text before a `//` (free of quotes and `/*`) is kept, the rest of the line dropped, the comment state not
    entered. Stated for `asm = false`, ordinary source; `scanLine_code`, of which this is a case, has either. -/
theorem line_comment_to_eol (lb fuel : Nat) (s2 tail acc : Str) (ins : Bool) (lits : List Str)
    (hne : s2 ++ ['/', '/'] ++ tail ≠ [])
    (hfirst : FirstAt ['/', '/'] s2 tail)
    (hq : splitOnce ['"'] s2 = none) (hb : splitOnce ['/', '*'] s2 = none) :
    scanLine false lb (fuel + 1) false (s2 ++ ['/', '/'] ++ tail) acc ins lits
      = .ok { text := acc ++ s2, insertIt := if (acc ++ s2).isEmpty then false else ins,
              inComment := false, literals := lits } := by
  have hbl : beforeLine (s2 ++ ['/', '/'] ++ tail) = s2 := by
    rw [beforeLine, splitOnce_first ['/', '/'] (by simp) s2 tail hfirst]
  exact scanLine_code false lb fuel acc ins lits hne (after := none) (by rw [hbl, hb]) hq

/-- a block comment opens at the first `/*` that no quote and no `//` precedes, and the scanner goes on INSIDE the
    comment with the untruncated remainder of the line, whatever it holds (`//`, quotes, another `/*`); DESIGN.md
    section 7 row 10 tells what is lost when the remainder is cut at `//` first -/
theorem block_comment_opens (asm : Bool) (lb fuel : Nat) (s2 rest acc : Str) (ins : Bool) (lits : List Str)
    (hfirst : FirstAt ['/', '*'] s2 rest) (hq : splitOnce ['"'] s2 = none)
    (hnl : ∀ j, j < s2.length → ['/', '/'].isPrefixOf ((s2 ++ ['/', '*'] ++ rest).drop j) = false) :
    scanLine asm lb (fuel + 1) false (s2 ++ ['/', '*'] ++ rest) acc ins lits
      = scanLine asm lb fuel true rest (acc ++ s2) (if (acc ++ s2).isEmpty then false else ins) lits := by
  have hs : splitOnce ['/', '*'] (beforeLine (s2 ++ ['/', '*'] ++ rest)) = some (s2, beforeLine rest) := by
    rw [beforeLine_keeps rest s2 hnl]
    exact splitOnce_first _ (by simp) _ _ (hfirst.indep _)
  refine scanLine_code asm lb fuel acc ins lits (by cases s2 <;> nofun) (after := some rest) ?_ hq
  rw [hs]; simp

/-- listing comments (`--insert_code`) are never touched by the optimiser -/
theorem optimize_keeps_comments (c : CV.Code) (i : Nat) (s : String)
    (h : c[i]? = some (CV.Line.comment s)) : (CV.optimize c).1[i]? = some (CV.Line.comment s) :=
  (CV.optimize_inv c).fixed i _ h rfl

/-! non-vacuity: the shape of DESIGN.md section 7 row 10 — a URL inside a comment -/
example : ∀ j, j < 16 →
    ['*', '/'].isPrefixOf ((" see http://x.y ".toList ++ ['*', '/'] ++ " char b;".toList).drop j) = false := by
  rw [String.toList_ofList, String.toList_ofList]
  decide

/-- `x = 1; /* see http://a//b */ y = 2;` — the `//` inside the comment does not cut the line -/
example : (match scanLine false 0 9 false ['x', '=', '1', ';', '/', '*', 'h', ':', '/', '/', 'a', '/', '/', 'b', '*', '/', 'y', '=', '2', ';'] [] false [] with
    | .ok o => o.text == ['x', '=', '1', ';', 'y', '=', '2', ';'] && !o.inComment
    | .error _ => false) = true := by decide +kernel

end CV.C11
