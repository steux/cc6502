/-
  Property C02 — optimisation never changes observable behaviour.
  Model: CV.Opt.optimize (exact port of AssemblyCode::optimize), CV.Mos (6502 semantics).

  Three layers. What `optimize` keeps of any line vector (length, lines that are no instructions, explicit accesses):
  by an invariant of its loop. What executing an instruction that a rule removes or exchanges would have changed, for
  all machine states and operands: one theorem per rule (not stated: the LDY and the LDX/STX, LDY/STY forms, `JMP` to
  the next label, `JMP ; JMP`). That the flags a removal leaves different are dead at that point is a property of the
  surrounding code: it is NOT proved for all programs (it rests on what the optimiser believes the registers and flags
  to hold; `inc_updates_flags_witness` and `inline_is_a_barrier_witness` show two places where it has to forget) but
  decided per function by a proved translation validator (CV.Valid, `validated_function_equivalent`). The check runs
  `validate` on every function the real optimiser produced; one it does not accept is not a violation: it is counted
  as uncertified and covered by co-execution of -O0 against -O1..3 only.
-/
import CV.Proofs.OptLemmas
import CV.Proofs.ValidCorr
namespace CV.C02

/-- the optimiser overwrites lines, it never inserts or deletes one -/
theorem optimize_length (c : Code) : (optimize c).1.length = c.length :=
  (optimize_inv c).size

/-- labels, inline lines, comments and dummies stay where they are -/
theorem optimize_keeps_nonInstr (c : Code) (i : Nat) (l : Line)
    (h : c[i]? = some l) (hn : NonInstr l = true) : (optimize c).1[i]? = some l :=
  (optimize_inv c).fixed i l h hn

/-- inline lines and protected instructions (`Kept`) are neither removed, duplicated nor reordered -/
theorem optimize_keeps_explicit (c : Code) : (optimize c).1.filter Kept = c.filter Kept :=
  (optimize_inv c).kept

/-- what removing a redundant load leaves as it was: the removal is sound where N and Z are dead -/
def EqExceptNZ (s t : Cpu) : Prop :=
  s.a = t.a ∧ s.x = t.x ∧ s.y = t.y ∧ s.sp = t.sp ∧ s.f.c = t.f.c ∧ s.f.v = t.f.v ∧ s.mem = t.mem

/-- operands whose effective address does not depend on memory contents (as a `Prop`, what `Valid.Opd.direct` is as a
    `Bool`) -/
def Direct : Opd → Prop
  | .mem _ | .memX _ _ | .memY _ _ => True
  | _ => False

/-- the first of two loads of A is dead -/
theorem lda_lda (s : Cpu) (o1 o2 : Opd) (s1 : Cpu) (h1 : s.exec .LDA o1 = some s1) :
    s1.exec .LDA o2 = s.exec .LDA o2 := by
  obtain ⟨v, _, rfl⟩ := Option.map_eq_some_iff.mp h1
  show (Cpu.rd _ o2).map _ = (s.rd o2).map _
  rw [Valid.rd_frame s { s with a := v, f := Cpu.setNZ s.f v } o2 rfl (fun _ => rfl) (fun _ => rfl)]
  rfl

/-- the same for X, when the second operand is not indexed by X -/
theorem ldx_ldx (s : Cpu) (o1 o2 : Opd) (s1 : Cpu) (h1 : s.exec .LDX o1 = some s1)
    (hx : ∀ a z, o2 ≠ .memX a z) (hi : ∀ z, o2 ≠ .indX z) : s1.exec .LDX o2 = s.exec .LDX o2 := by
  obtain ⟨v, _, rfl⟩ := Option.map_eq_some_iff.mp h1
  have hu : Valid.Opd.usesX o2 = false := by
    cases o2 <;> first | rfl | exact absurd rfl (hx _ _) | exact absurd rfl (hi _)
  show (Cpu.rd _ o2).map _ = (s.rd o2).map _
  rw [Valid.rd_frame s { s with x := v, f := Cpu.setNZ s.f v } o2 rfl
    (fun e => absurd (hu.symm.trans e) Bool.false_ne_true) (fun _ => rfl)]
  rfl

/-- reloading A from an operand that reads what A holds changes at most N, Z -/
theorem redundant_lda (s s1 : Cpu) (o : Opd) (hv : s.rd o = some s.a) (h : s.exec .LDA o = some s1) :
    EqExceptNZ s1 s := by
  rw [show s.exec .LDA o = (s.rd o).map _ from rfl, hv] at h
  cases h
  exact ⟨rfl, rfl, rfl, rfl, rfl, rfl, rfl⟩

/-- `LDA m` after `STA m` changes at most N, Z -/
theorem sta_lda_same (s : Cpu) (o : Opd) (hd : Direct o) (s1 s2 : Cpu)
    (h1 : s.exec .STA o = some s1) (h2 : s1.exec .LDA o = some s2) : EqExceptNZ s2 s1 := by
  obtain ⟨ad, hea, rfl⟩ := Option.map_eq_some_iff.mp h1
  have hd' : Valid.Opd.direct o = true := by cases o <;> first | rfl | exact hd.elim
  exact redundant_lda _ s2 o (Valid.rd_store s.a hd' hea) h2

set_option linter.unusedVariables false in
/-- `STA m` after `LDA m` changes nothing (`hd` is not needed: with any addressing mode the cell written is the
    cell that was read) -/
theorem lda_sta_same (s : Cpu) (o : Opd) (hd : Direct o) (s1 s2 : Cpu)
    (h1 : s.exec .LDA o = some s1) (h2 : s1.exec .STA o = some s2) : s2 = s1 := by
  obtain ⟨v, hv, rfl⟩ := Option.map_eq_some_iff.mp h1
  obtain ⟨ad, hea, rfl⟩ := Option.map_eq_some_iff.mp h2
  obtain rfl : s.mem.read ad = v := Option.some.inj
    ((Valid.rd_of_ea hea).symm.trans ((Valid.rd_frame s _ o rfl (fun _ => rfl) (fun _ => rfl)).trans hv))
  exact congrArg (fun m => ({ s with a := _, f := _, mem := m } : Cpu)) (Mem.write_read_same ..)

/-- `TXA` behind `TAX` changes nothing -/
theorem tax_txa (s s1 : Cpu) (h1 : s.exec .TAX .none = some s1) : s1.exec .TXA .none = some s1 := by
  cases h1; rfl

/-- `TAX` behind `TXA` changes nothing -/
theorem txa_tax (s s1 : Cpu) (h1 : s.exec .TXA .none = some s1) : s1.exec .TAX .none = some s1 := by
  cases h1; rfl

/-- `TYA` behind `TAY` changes nothing -/
theorem tay_tya (s s1 : Cpu) (h1 : s.exec .TAY .none = some s1) : s1.exec .TYA .none = some s1 := by
  cases h1; rfl

/-- `TAY` behind `TYA` changes nothing -/
theorem tya_tay (s s1 : Cpu) (h1 : s.exec .TYA .none = some s1) : s1.exec .TAY .none = some s1 := by
  cases h1; rfl

/-- `PLA ; PHA` : stack pointer and stack contents restored; only A, N, Z may differ -/
theorem pla_pha (s s1 s2 : Cpu) (h1 : s.exec .PLA .none = some s1) (h2 : s1.exec .PHA .none = some s2) :
    s2.x = s.x ∧ s2.y = s.y ∧ s2.sp = s.sp ∧ s2.f.c = s.f.c ∧ s2.f.v = s.f.v ∧ s2.mem = s.mem := by
  cases h1; cases h2
  exact ⟨rfl, rfl, BitVec.add_sub_cancel .., rfl, rfl, Mem.write_read_same ..⟩

/-- `ORA #0` changes at most N, Z -/
theorem ora_zero (s s1 : Cpu) (h : s.exec .ORA (.imm 0) = some s1) : EqExceptNZ s1 s := by
  cases h
  have ha : s.a ||| 0 = s.a := BitVec.or_zero
  exact ⟨ha, rfl, rfl, rfl, rfl, rfl, rfl⟩

/-- `LDA` and `CLC` commute exactly -/
theorem lda_clc_swap (s : Cpu) (o : Opd) :
    (s.exec .LDA o).bind (fun t => t.exec .CLC .none) = (s.exec .CLC .none).bind (fun t => t.exec .LDA o) :=
  Valid.lda_flag_comm s .CLC (.inl rfl) o

/-- `LDA` and `SEC` commute exactly -/
theorem lda_sec_swap (s : Cpu) (o : Opd) :
    (s.exec .LDA o).bind (fun t => t.exec .SEC .none) = (s.exec .SEC .none).bind (fun t => t.exec .LDA o) :=
  Valid.lda_flag_comm s .SEC (.inr rfl) o

/-- A holds the immediate: `CMP #v` sets Z, so `BNE` falls through; registers and memory unchanged -/
theorem cmp_known_equal (s s1 : Cpu) (v : Byte) (ha : s.a = v) (h : s.exec .CMP (.imm v) = some s1) :
    Cpu.taken s1.f .BNE = some false ∧ s1.a = s.a ∧ s1.x = s.x ∧ s1.y = s.y ∧ s1.mem = s.mem ∧ s1.sp = s.sp := by
  cases h
  exact ⟨congrArg (fun z => some (!z)) ((Cpu.cmp_z s s.a v).trans (beq_iff_eq.mpr ha)), rfl, rfl, rfl, rfl, rfl⟩

/-- A differs from the immediate: `BEQ` falls through -/
theorem cmp_known_differs (s s1 : Cpu) (v : Byte) (ha : s.a ≠ v) (h : s.exec .CMP (.imm v) = some s1) :
    Cpu.taken s1.f .BEQ = some false ∧ s1.a = s.a ∧ s1.x = s.x ∧ s1.y = s.y ∧ s1.mem = s.mem ∧ s1.sp = s.sp := by
  cases h
  exact ⟨congrArg some ((Cpu.cmp_z s s.a v).trans (beq_false_of_ne ha)), rfl, rfl, rfl, rfl, rfl⟩

/-! Two vectors `optimize` leaves as they are, because it forgets what it believed at an `INC` and at an inline line
    (the rows of DESIGN.md section 7 tell what a removal would do to them; row 27, also filed under C02, has no vector
    here). -/

def ins (mn : Mn) (opd : String := "") (prot : Bool := false) : Line :=
  .instr { mn := mn, opd := opd, prot := prot }

/-- `INC` resets the optimiser's belief about the flags: the second `LDA a`, whose N/Z the following branch needs, is
    kept (DESIGN.md section 7, row 25) -/
theorem inc_updates_flags_witness :
    (optimize [ins .LDA "a", ins .BEQ ".e", ins .INC "b", ins .LDA "a", ins .BEQ ".e", ins .RTS]).1
      = [ins .LDA "a", ins .BEQ ".e", ins .INC "b", ins .LDA "a", ins .BEQ ".e", ins .RTS] := by decide +kernel

/-- inline assembly is a barrier: A is not believed to hold #3 after `LDA #5` (DESIGN.md section 7, row 26) -/
theorem inline_is_a_barrier_witness :
    (optimize [ins .LDA "#3", ins .STA "x", .inline "LDA #5" 2, ins .LDA "#3", ins .STA "y"]).1
      = [ins .LDA "#3", ins .STA "x", .inline "LDA #5" 2, ins .LDA "#3", ins .STA "y"] := by decide +kernel

-- the hypotheses of `sta_lda_same` can be met
example : ∃ s1, (default : Cpu).exec .STA (.mem 0x80) = some s1 ∧ Direct (.mem 0x80) := ⟨_, rfl, trivial⟩

/-- **the validator is sound.** `orig` and `opt` are the line vectors of one function before and after optimisation.
    `extF i` is the effect of the instruction at line `i` when it is outside the reasoned set (JSR, BIT, PHP/PLP,
    indirect jumps …): any function of the machine state, the same in both programs. If the validator accepts:
    whenever one of the two programs returns, so does the other, and the two final states agree in A, X, Y, the stack
    pointer, the V flag and every memory cell. N, Z and C at the return are outside the contract (`Valid.exitDead`:
    generated callers never read them behind a JSR). -/
theorem validated_function_equivalent (extF : Nat → Cpu → Cpu) (orig opt : Valid.VCode)
    (h : Valid.validate orig opt = true) (s : Cpu) :
    (∀ r, (∃ n, Valid.run extF orig n 0 s = some r) →
        ∃ m r', Valid.run extF opt m 0 s = some r' ∧ Valid.Agree Valid.exitDead r r') ∧
    (∀ r', (∃ m, Valid.run extF opt m 0 s = some r') →
        ∃ n r, Valid.run extF orig n 0 s = some r ∧ Valid.Agree Valid.exitDead r r') :=
  Valid.validate_sound extF orig opt h s

/-- what agreement at the return means, spelled out -/
theorem agree_at_return (r r' : Cpu) (h : Valid.Agree Valid.exitDead r r') :
    r.a = r'.a ∧ r.x = r'.x ∧ r.y = r'.y ∧ r.sp = r'.sp ∧ r.f.v = r'.f.v ∧ r.mem = r'.mem :=
  ⟨h.a rfl, h.x rfl, h.y rfl, h.sp, h.v, h.mem⟩

/-- the facts the validator computes are true of every state that reaches the line (one instruction; `hs` is not
    needed: `Valid.holds_xfer`) -/
theorem validator_facts_sound (K : Valid.Facts) (mn : Mn) (o : Opd) (s s' : Cpu) (hs : Valid.supported mn = true)
    (hK : K.holds s) (he : s.exec mn o = some s') : (Valid.xfer K mn o).holds s' :=
  Valid.xfer_sound K mn o s s' hs hK he

/-- an instruction the validator lets go leaves everything that is still read unchanged -/
theorem validator_removal_sound (K : Valid.Facts) (D : Valid.Res → Bool) (mn : Mn) (o : Opd) (s1 s2 s1' : Cpu)
    (hK : K.holds s1) (hag : Valid.Agree D s1 s2) (hrem : Valid.removable K D mn o = true)
    (he : s1.exec mn o = some s1') : Valid.Agree D s1' s2 :=
  Valid.removable_sound K D mn o s1 s2 s1' hK hag hrem he

def exOrig : Valid.VCode :=
  [.ins .LDA (.imm 1), .ins .STA (.mem 0x80), .ins .LDA (.mem 0x80), .ins .STA (.mem 0x81), .rts]
def exOpt : Valid.VCode :=
  [.ins .LDA (.imm 1), .ins .STA (.mem 0x80), .dummy, .ins .STA (.mem 0x81), .rts]
def exWrong : Valid.VCode :=
  [.ins .LDA (.imm 1), .dummy, .ins .LDA (.mem 0x80), .ins .STA (.mem 0x81), .rts]

/-- non-vacuity: a reload of a value just stored is accepted as removed … -/
theorem validator_accepts_example : Valid.validate exOrig exOpt = true := by decide +kernel
/-- … and the removal of the store itself is not -/
theorem validator_rejects_example : Valid.validate exOrig exWrong = false := by decide

end CV.C02
