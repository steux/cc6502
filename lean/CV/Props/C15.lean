/-
  Property C15 — equivalent source forms behave identically.
  Models: CV.GenFlat / CV.GenStruct (generator port; source meanings `spec`, `rspec`, `sem`), through C01's theorems.

  Every law is a statement about the source meaning — the two spellings mean the same: `spec`, `rspec`, `sem` fuel by
  fuel, or the relation `Sem` where the spellings need different amounts of fuel. The laws that give the same meaning
  exactly are carried to the emitted code by `compiled_equiv` (stage 1) and `same_meaning_same_behaviour` (structured
  programs); the `EqOff` laws (trees, 16-bit compares) are stated on the meaning only. Conditions are compared by
  `condRun`, truth value AND the state the condition leaves (C01 stage 13), so the condition laws hold for conditions
  with effects; `de_morgan_law` alone is about the truth value (`evalCond`) only. Two spellings that spill differently
  (expression trees, 16-bit compares) agree outside the compiler's own cells only (`EqOff`: all but `cctmp` and the
  stack page).
  Not proved: the rewrites that need arrays, switch or calls (switch vs if-chain, register vs constant
  index, call vs body in place); they are decided by metamorphic co-execution in the check (partial).
-/
import CV.Props.C01
set_option linter.constructorNameAsVariable false
namespace CV.C15
open CV.GenFlat CV.GenReg CV.GenStruct CV.C01

/-- `v = a ∘ b` ≡ `v = b ∘ a` for a commutative operator (+ & | ^) -/
theorem comm_law (L : Layout) (m : Mem) (x y : Byte) (v : String) (op : BOp) (a b : Atom) (h : op.commutes = true) :
    spec L m x y (.bin v op a b) = spec L m x y (.bin v op b a) := by
  simp only [spec]; rw [BOp.apply_comm op h]

/-- `v ∘= a` ≡ `v = v ∘ a` -/
theorem opassign_law (L : Layout) (m : Mem) (x y : Byte) (v : String) (op : BOp) (a : Atom) :
    spec L m x y (.opasg v op a) = spec L m x y (.bin v op (.var v) a) := rfl

/-- `v++` ≡ `v += 1` -/
theorem incr_law (L : Layout) (m : Mem) (x y : Byte) (v : String) :
    spec L m x y (.inc v) = spec L m x y (.opasg v .add (.const 1)) := rfl

/-- `v--` ≡ `v -= 1` -/
theorem decr_law (L : Layout) (m : Mem) (x y : Byte) (v : String) :
    spec L m x y (.dec v) = spec L m x y (.opasg v .sub (.const 1)) := rfl

/-- stage 1: two statements with the same source meaning in the machine's state compile to code that ends, from that
    state, in the same memory, X, Y and SP -/
theorem compiled_equiv (L : Layout) (s₁ s₂ : FStmt) (c : Cpu)
    (hsame : spec L c.mem c.x c.y s₁ = spec L c.mem c.x c.y s₂) :
    ∃ c₁ c₂, execSeq c (genOps L s₁) = some c₁ ∧ execSeq c (genOps L s₂) = some c₂ ∧
      c₁.mem = c₂.mem ∧ c₁.x = c₂.x ∧ c₁.y = c₂.y ∧ c₁.sp = c₂.sp := by
  obtain ⟨c₁, h1, m1, x1, y1, p1⟩ := C01.gen_stmt_correct L s₁ c
  obtain ⟨c₂, h2, m2, x2, y2, p2⟩ := C01.gen_stmt_correct L s₂ c
  exact ⟨c₁, c₂, h1, h2, by rw [m1, m2, hsame], by rw [x1, x2], by rw [y1, y2], by rw [p1, p2]⟩

/-- the code of `v = a ∘ b` and of `v = b ∘ a` (commutative operator) ends in the same state -/
theorem compiled_comm (L : Layout) (c : Cpu) (v : String) (op : BOp) (a b : Atom) (h : op.commutes = true) :
    ∃ c₁ c₂, execSeq c (genOps L (.bin v op a b)) = some c₁ ∧ execSeq c (genOps L (.bin v op b a)) = some c₂ ∧
      c₁.mem = c₂.mem ∧ c₁.x = c₂.x ∧ c₁.y = c₂.y ∧ c₁.sp = c₂.sp :=
  compiled_equiv L _ _ c (comm_law L c.mem c.x c.y v op a b h)

/-- the code of `v ∘= a` and of `v = v ∘ a` ends in the same state -/
theorem compiled_opassign (L : Layout) (c : Cpu) (v : String) (op : BOp) (a : Atom) :
    ∃ c₁ c₂, execSeq c (genOps L (.opasg v op a)) = some c₁ ∧ execSeq c (genOps L (.bin v op (.var v) a)) = some c₂ ∧
      c₁.mem = c₂.mem ∧ c₁.x = c₂.x ∧ c₁.y = c₂.y ∧ c₁.sp = c₂.sp :=
  compiled_equiv L _ _ c (opassign_law L c.mem c.x c.y v op a)

/-- the code of `v++` (`INC`) and of `v += 1` (`CLC ; ADC #1`) ends in the same state -/
theorem compiled_incr (L : Layout) (c : Cpu) (v : String) :
    ∃ c₁ c₂, execSeq c (genOps L (.inc v)) = some c₁ ∧ execSeq c (genOps L (.opasg v .add (.const 1))) = some c₂ ∧
      c₁.mem = c₂.mem ∧ c₁.x = c₂.x ∧ c₁.y = c₂.y ∧ c₁.sp = c₂.sp :=
  compiled_equiv L _ _ c (incr_law L c.mem c.x c.y v)

/-! non-vacuity: the two spellings really are different code -/
example : genText (.inc "a") ≠ genText (.opasg "a" .add (.const 1)) := by decide
example : genText (.bin "c" .add (.var "a") (.var "b")) ≠ genText (.bin "c" .add (.var "b") (.var "a")) := by decide

/-- the source meaning as a relation: with some amount of fuel -/
def Sem (L : Layout) (m : SrcSt) (st : SStmt) (o : Out) : Prop := ∃ f, sem L f m st = some o

/-- the source meaning is a partial function -/
theorem Sem.det {L : Layout} {m : SrcSt} {st : SStmt} {o1 o2 : Out} (h1 : Sem L m st o1) (h2 : Sem L m st o2) : o1 = o2 := by
  obtain ⟨f1, e1⟩ := h1
  obtain ⟨f2, e2⟩ := h2
  have a := sem_mono_add L f1 f2 m st o1 e1
  have b := sem_mono_add L f2 f1 m st o2 e2
  rw [Nat.add_comm, a] at b
  exact Option.some.inj b

theorem Sem.of_eq {L : Layout} {m : SrcSt} {st₁ st₂ : SStmt} (h : ∀ f, sem L f m st₁ = sem L f m st₂) {o : Out}
    (hs : Sem L m st₁ o) : Sem L m st₂ o := hs.imp fun f hf => (h f).symm.trans hf

/-- two spellings with the same source meaning compile to code with the same behaviour, from every machine state:
    both runs end, and they end in the same memory, X, Y and SP -/
theorem same_meaning_same_behaviour (L : Layout) (st₁ st₂ : SStmt)
    (h₁ : SInFragment st₁ = true) (h₂ : SInFragment st₂ = true)
    (c₁ : Scoped false st₁ = true) (c₂ : Scoped false st₂ = true)
    (s : Cpu) (o : Out) (hs₁ : Sem L (srcOf s) st₁ o) (hs₂ : Sem L (srcOf s) st₂ o) :
    ∃ s₁ s₂ n₁ n₂,
      runG L (gen none {} st₁).1 (gen none {} st₁).1.length n₁ 0 s = some s₁ ∧
      runG L (gen none {} st₂).1 (gen none {} st₂).1.length n₂ 0 s = some s₂ ∧
      srcOf s₁ = srcOf s₂ ∧ s₁.sp = s₂.sp := by
  obtain ⟨f1, e1⟩ := hs₁
  obtain ⟨f2, e2⟩ := hs₂
  obtain ⟨s1, n1, r1, m1, p1⟩ := struct_program_correct L st₁ f1 (srcOf s) o e1 h₁ c₁ s rfl
  obtain ⟨s2, n2, r2, m2, p2⟩ := struct_program_correct L st₂ f2 (srcOf s) o e2 h₂ c₂ s rfl
  exact ⟨s1, s2, n1, n2, r1, r2, by rw [m1, m2], by rw [p1, p2]⟩

/-- the negation written out: operators negated, `v` ↔ `!v`, De Morgan for `&&` / `||` -/
def Cond.neg : Cond → Cond
  | .cmp op a b => .cmp op.negate a b
  | .truth v => .nottruth v
  | .nottruth v => .truth v
  | .and a b => .or (Cond.neg a) (Cond.neg b)
  | .or a b => .and (Cond.neg a) (Cond.neg b)
  | .not c => c
  | .cmpE op e b l => .cmpE op.negate e b l
  | .truthE e => .not (.truthE e)
  | .cmpR op e y l => .cmpR op.negate e y l
  | .wcmp ne s w => .wcmp (!ne) s w

/-- every comparison written from the other side (`a ⋈ b` ↦ `b ⋈' a`) -/
def Cond.swap : Cond → Cond
  | .cmp op a b => .cmp op.mirror b a
  | .cmpE op e b l => .cmpE op.mirror e b (!l)
  | .cmpR op e y l => .cmpR op.mirror e y (!l)
  | .and a b => .and (Cond.swap a) (Cond.swap b)
  | .or a b => .or (Cond.swap a) (Cond.swap b)
  | .not c => .not (Cond.swap c)
  | c => c

theorem condRun_neg_eq (L : Layout) (c : Cond) (m : SrcSt) :
    condRun L m (Cond.neg c) = (!(condRun L m c).1, (condRun L m c).2) := by
  induction c generalizing m with
  | cmp op a b => simp only [Cond.neg, condRun, negate_eval]
  | truth v => simp [Cond.neg, condRun, bne]
  | nottruth v => simp [Cond.neg, condRun, bne]
  | and a b iha ihb => simp only [Cond.neg, condRun, iha, ihb]; cases (condRun L m a).1 <;> rfl
  | or a b iha ihb => simp only [Cond.neg, condRun, iha, ihb]; cases (condRun L m a).1 <;> rfl
  | not c ih => simp [Cond.neg, condRun]
  | cmpE op e b l => cases l <;> simp [Cond.neg, condRun, negate_eval]
  | truthE e => rfl
  | cmpR op e y l => cases l <;> simp [Cond.neg, condRun, negate_eval]
  | wcmp ne s w => cases ne <;> simp [Cond.neg, condRun]

/-- the written-out negation has the negated value and the same effect -/
theorem condRun_neg (L : Layout) (c : Cond) : ∀ m : SrcSt,
    evalCond L m (Cond.neg c) = (!evalCond L m c) ∧ condEff L m (Cond.neg c) = condEff L m c :=
  fun m => ⟨congrArg Prod.fst (condRun_neg_eq L c m), (congrArg Prod.snd (condRun_neg_eq L c m) :)⟩

theorem condRun_swap_eq (L : Layout) (c : Cond) (m : SrcSt) : condRun L m (Cond.swap c) = condRun L m c := by
  induction c generalizing m with
  | cmp op a b => simp only [Cond.swap, condRun, mirror_eval]
  | and a b iha ihb => simp only [Cond.swap, condRun, iha, ihb]
  | or a b iha ihb => simp only [Cond.swap, condRun, iha, ihb]
  | not c ih => simp only [Cond.swap, condRun, ih]
  | cmpE op e b l => cases l <;> simp [Cond.swap, condRun, mirror_eval]
  | cmpR op e y l => cases l <;> simp [Cond.swap, condRun, mirror_eval]
  | _ => rfl

/-- a condition written from the other side has the same value and the same effect -/
theorem condRun_swap (L : Layout) (c : Cond) : ∀ m : SrcSt,
    evalCond L m (Cond.swap c) = evalCond L m c ∧ condEff L m (Cond.swap c) = condEff L m c :=
  fun m => ⟨congrArg Prod.fst (condRun_swap_eq L c m), congrArg Prod.snd (condRun_swap_eq L c m)⟩

/-- De Morgan at the source level: `!(a && b)` ≡ `!a || !b`, `!(a || b)` ≡ `!a && !b` -/
theorem de_morgan_law (L : Layout) (m : SrcSt) (a b : Cond) :
    evalCond L m (.not (.and a b)) = evalCond L m (.or (.not a) (.not b)) ∧
    evalCond L m (.not (.or a b)) = evalCond L m (.and (.not a) (.not b)) := by
  simp [evalCond_not, evalCond_and, evalCond_or, condEff_not]

theorem ifElse_flip (L : Layout) (f : Nat) (m : SrcSt) (c c' : Cond) (t e : SStmt)
    (h : condRun L m c' = (!evalCond L m c, condEff L m c)) :
    sem L f m (.ifElse c t e) = sem L f m (.ifElse c' e t) := by
  have hv : evalCond L m c' = !evalCond L m c := congrArg Prod.fst h
  have he : condEff L m c' = condEff L m c := (congrArg Prod.snd h :)
  cases f with
  | zero => rfl
  | succ f => rw [sem_ifElse, sem_ifElse, hv, he]; cases evalCond L m c <;> rfl

/-- `if (c) A else B` ≡ `if (!c) B else A` -/
theorem if_else_swap_law (L : Layout) (f : Nat) (m : SrcSt) (c : Cond) (t e : SStmt) :
    sem L f m (.ifElse c t e) = sem L f m (.ifElse (Cond.neg c) e t) :=
  ifElse_flip L f m c _ t e (condRun_neg_eq L c m)

/-- the same with the `!` operator itself: `if (c) A else B` ≡ `if (!(c)) B else A` -/
theorem if_else_not_law (L : Layout) (f : Nat) (m : SrcSt) (c : Cond) (t e : SStmt) :
    sem L f m (.ifElse c t e) = sem L f m (.ifElse (.not c) e t) :=
  ifElse_flip L f m c _ t e rfl

/-- `c'` may stand for `c` as the test of any construct: the outcome at fuel `f` from `m` is the same
    (`forRounds`: the loop of a `for` behind its initialisation) -/
structure SameTest (L : Layout) (c c' : Cond) (f : Nat) (m : SrcSt) : Prop where
  ifThen : ∀ t, sem L f m (.ifThen c t) = sem L f m (.ifThen c' t)
  ifElse : ∀ t e, sem L f m (.ifElse c t e) = sem L f m (.ifElse c' t e)
  while_ : ∀ b, sem L f m (.while c b) = sem L f m (.while c' b)
  doWhile : ∀ b, sem L f m (.doWhile b c) = sem L f m (.doWhile b c')
  forRounds : ∀ u b, semFor L c u b f m = semFor L c' u b f m
  for_ : ∀ i u b, sem L f m (.for i c u b) = sem L f m (.for i c' u b)

/-- conditions that run the same way (the same value, the same state left) are interchangeable as tests -/
theorem cond_congr (L : Layout) (c c' : Cond) (h : ∀ m, condRun L m c = condRun L m c') : ∀ f m, SameTest L c c' f m := by
  have hc : ∀ m, evalCond L m c = evalCond L m c' := fun m => congrArg Prod.fst (h m)
  have he : ∀ m, condEff L m c = condEff L m c' := fun m => congrArg Prod.snd (h m)
  intro f
  induction f with
  | zero => exact fun m => ⟨fun _ => rfl, fun _ _ => rfl, fun _ => rfl, fun _ => rfl, fun _ _ => rfl, fun _ _ _ => rfl⟩
  | succ f ih =>
    -- a loop goes on with itself one unit of fuel down: `ih`, under the `fun m1 => …` of `loopExit`
    intro m
    exact {
      ifThen := fun t => by rw [sem_ifThen, sem_ifThen, hc, he]
      ifElse := fun t e => by rw [sem_ifElse, sem_ifElse, hc, he]
      while_ := fun b => by simp only [sem_while, hc, he, fun m1 => (ih m1).while_ b]
      doWhile := fun b => by simp only [sem_doWhile, hc, he, fun m1 => (ih m1).doWhile b]
      forRounds := fun u b => by simp only [semFor_succ, hc, he, fun m1 => (ih m1).forRounds u b]
      for_ := fun i u b => (ih _).forRounds u b }

/-- `a < b` ≡ `b > a` (and the other five operators) wherever a condition stands -/
theorem compare_swap_law (L : Layout) (c : Cond) (f : Nat) (m : SrcSt) : SameTest L c (Cond.swap c) f m :=
  cond_congr L c (Cond.swap c) (fun m => (condRun_swap_eq L c m).symm) f m

/-- one round of a loop with test `c`: the test, then `body` from the state the test leaves, then `next` unless the
    body left by `break` -/
def loopRound (L : Layout) (c : Cond) (body next : SrcSt → Option Out) (m : SrcSt) : Option Out :=
  if evalCond L m c then (body (condEff L m c)).bind (loopExit next) else some (.norm, condEff L m c)

/-- Two spellings of a loop differ in the fuel a round costs, not in what a round does (`g`: what is done between two
    rounds). `A`, `B`: their meanings by fuel. If `B`'s body has the fuel of `A`'s or more, `B` stays above `A`. -/
theorem loops_below {L : Layout} {c : Cond} {g : SrcSt → SrcSt} {A B body body' : Nat → SrcSt → Option Out}
    (hA : ∀ f m, A (f + 1) m = loopRound L c (body f) (fun m1 => A f (g m1)) m)
    (hB : ∀ f m, B (f + 1) m = loopRound L c (body' f) (fun m1 => B f (g m1)) m)
    (hb : ∀ f m, Below (body f m) (body' f m)) (h0 : ∀ m, Below (A 0 m) (B 0 m)) : ∀ f m, Below (A f m) (B f m) := by
  intro f
  induction f with
  | zero => exact h0
  | succ f ih =>
    intro m
    rw [hA, hB]
    exact ((hb f _).bind (loopExit_below fun m1 => ih _)).ite (.refl _)

/-- `for (i; c; u) S` ≡ `i; while (c) { S; u; }` — for a body without a `continue` of its own (a `continue`
    in a `for` still runs the update; in the `while` spelling it would skip it); `break` is fine -/
theorem for_while_law (L : Layout) (i u : RStmt) (c : Cond) (b : SStmt) (hcn : contHere b = false) (m : SrcSt) (o : Out) :
    Sem L m (.for i c u b) o ↔ Sem L m (.seq (.flat i) (.while c (.seq b (.flat u)))) o := by
  -- a round of the `while` spelling is a round of `semFor`: the body did not end by `continue`, so the update runs
  -- and then the loop again; its `{ S; u; }` costs two more units of fuel
  have round : ∀ f m, sem L (f + 3) m (.while c (.seq b (.flat u))) =
      loopRound L c (fun m => sem L (f + 1) m b) (fun m1 => sem L (f + 2) (rspec L m1 u) (.while c (.seq b (.flat u)))) m := by
    intro f m
    rw [sem_while, sem_seq, Option.bind_assoc, loopRound]
    split
    · refine Option.bind_congr fun ob hob => ?_
      obtain ⟨e, m1⟩ := ob
      cases e
      · rfl
      · rfl
      · rw [sem_cont_contHere L _ _ b m1 hob] at hcn; cases hcn
    · rfl
  have fwd : ∀ f m, Below (semFor L c u b f m) (sem L (f + 2) m (.while c (.seq b (.flat u)))) :=
    loops_below (body := fun f m => sem L f m b) (fun f m => semFor_succ L f m c b u) round
      (fun f m => sem_mono L f m b) (fun m => .none _)
  have bwd : ∀ f m, Below (sem L (f + 2) m (.while c (.seq b (.flat u)))) (semFor L c u b (f + 1) m) :=
    loops_below (body' := fun f m => sem L (f + 1) m b) round (fun f m => semFor_succ L (f + 1) m c b u)
      (fun f m => .refl _) (fun m => by rw [sem_while, semFor_succ]; exact Below.ite (.none _) (.refl _))
  constructor
  · rintro ⟨f, h⟩
    cases f with
    | zero => cases h
    | succ f => exact ⟨f + 3, fwd f _ o h⟩
  · rintro ⟨f, h⟩
    match f, h with
    | 0, h => cases h
    | 1, h => cases h
    | f + 2, h => exact ⟨f + 2, bwd f _ o (sem_mono L (f + 1) _ _ o h)⟩

/-- `while (c) S` ≡ `if (c) do S while (c);` — also when S leaves by `break` or `continue` -/
theorem while_dowhile_law (L : Layout) (c : Cond) (b : SStmt) : ∀ (m : SrcSt) (o : Out),
    Sem L m (.while c b) o ↔ Sem L m (.ifThen c (.doWhile b c)) o := by
  -- a round of the second spelling is a round of `while`: after the body it faces the choice it faced at the start;
  -- it costs one more unit of fuel
  have round : ∀ f m, sem L (f + 2) m (.ifThen c (.doWhile b c)) =
      loopRound L c (fun m => sem L f m b) (fun m1 => sem L (f + 1) m1 (.ifThen c (.doWhile b c))) m := by
    intro f m
    rw [sem_ifThen, sem_doWhile]
    rfl
  have fwd : ∀ f m, Below (sem L f m (.while c b)) (sem L (f + 1) m (.ifThen c (.doWhile b c))) :=
    loops_below (g := id) (body := fun f m => sem L f m b) (fun f m => sem_while L f m c b) round
      (fun f m => .refl _) (fun m => .none _)
  have bwd : ∀ f m, Below (sem L (f + 1) m (.ifThen c (.doWhile b c))) (sem L (f + 1) m (.while c b)) :=
    loops_below (g := id) (body' := fun f m => sem L (f + 1) m b) round (fun f m => sem_while L (f + 1) m c b)
      (fun f m => sem_mono L f m b) (fun m => by rw [sem_while]; exact (Below.none _).ite (.refl _))
  refine fun m o => ⟨fun ⟨f, h⟩ => ⟨f + 1, fwd f m o h⟩, fun ⟨f, h⟩ => ?_⟩
  cases f with
  | zero => cases h
  | succ f => exact ⟨f + 1, bwd f m o h⟩

/-- the code of `if (c) A else B` and of `if (!c) B else A` (negation written out) behaves the same -/
theorem compiled_if_else_swap (L : Layout) (c : Cond) (t e : SStmt)
    (h₁ : SInFragment (.ifElse c t e) = true) (h₂ : SInFragment (.ifElse (Cond.neg c) e t) = true)
    (c₁ : Scoped false (.ifElse c t e) = true) (c₂ : Scoped false (.ifElse (Cond.neg c) e t) = true)
    (s : Cpu) (o : Out) (hterm : Sem L (srcOf s) (.ifElse c t e) o) :
    ∃ s₁ s₂ n₁ n₂,
      runG L (gen none {} (.ifElse c t e)).1 (gen none {} (.ifElse c t e)).1.length n₁ 0 s = some s₁ ∧
      runG L (gen none {} (.ifElse (Cond.neg c) e t)).1 (gen none {} (.ifElse (Cond.neg c) e t)).1.length n₂ 0 s = some s₂ ∧
      srcOf s₁ = srcOf s₂ ∧ s₁.sp = s₂.sp :=
  same_meaning_same_behaviour L _ _ h₁ h₂ c₁ c₂ s o hterm (hterm.of_eq fun f => if_else_swap_law L f _ c t e)

/-- the code of `for (i; c; u) S` and of `i; while (c) { S; u; }` behaves the same (S without a `continue` of its own) -/
theorem compiled_for_while (L : Layout) (i u : RStmt) (c : Cond) (b : SStmt) (hcn : contHere b = false)
    (h₁ : SInFragment (.for i c u b) = true) (h₂ : SInFragment (.seq (.flat i) (.while c (.seq b (.flat u)))) = true)
    (c₁ : Scoped false (.for i c u b) = true) (c₂ : Scoped false (.seq (.flat i) (.while c (.seq b (.flat u)))) = true)
    (s : Cpu) (o : Out) (hterm : Sem L (srcOf s) (.for i c u b) o) :
    ∃ s₁ s₂ n₁ n₂,
      runG L (gen none {} (.for i c u b)).1 (gen none {} (.for i c u b)).1.length n₁ 0 s = some s₁ ∧
      runG L (gen none {} (.seq (.flat i) (.while c (.seq b (.flat u))))).1
        (gen none {} (.seq (.flat i) (.while c (.seq b (.flat u))))).1.length n₂ 0 s = some s₂ ∧
      srcOf s₁ = srcOf s₂ ∧ s₁.sp = s₂.sp :=
  same_meaning_same_behaviour L _ _ h₁ h₂ c₁ c₂ s o hterm ((for_while_law L i u c b hcn _ o).mp hterm)

/-- the code of `while (c) S` and of `if (c) do S while (c);` behaves the same -/
theorem compiled_while_dowhile (L : Layout) (c : Cond) (b : SStmt)
    (h₁ : SInFragment (.while c b) = true) (h₂ : SInFragment (.ifThen c (.doWhile b c)) = true)
    (c₁ : Scoped false (.while c b) = true) (c₂ : Scoped false (.ifThen c (.doWhile b c)) = true)
    (s : Cpu) (o : Out) (hterm : Sem L (srcOf s) (.while c b) o) :
    ∃ s₁ s₂ n₁ n₂,
      runG L (gen none {} (.while c b)).1 (gen none {} (.while c b)).1.length n₁ 0 s = some s₁ ∧
      runG L (gen none {} (.ifThen c (.doWhile b c))).1 (gen none {} (.ifThen c (.doWhile b c))).1.length n₂ 0 s = some s₂ ∧
      srcOf s₁ = srcOf s₂ ∧ s₁.sp = s₂.sp :=
  same_meaning_same_behaviour L _ _ h₁ h₂ c₁ c₂ s o hterm ((while_dowhile_law L c b _ o).mp hterm)

/-- the code of `if (c) A else B` with every comparison of `c` written from the other side behaves the same -/
theorem compiled_compare_swap_if (L : Layout) (c : Cond) (t e : SStmt)
    (h₁ : SInFragment (.ifElse c t e) = true) (h₂ : SInFragment (.ifElse (Cond.swap c) t e) = true)
    (c₁ : Scoped false (.ifElse c t e) = true) (c₂ : Scoped false (.ifElse (Cond.swap c) t e) = true)
    (s : Cpu) (o : Out) (hterm : Sem L (srcOf s) (.ifElse c t e) o) :
    ∃ s₁ s₂ n₁ n₂,
      runG L (gen none {} (.ifElse c t e)).1 (gen none {} (.ifElse c t e)).1.length n₁ 0 s = some s₁ ∧
      runG L (gen none {} (.ifElse (Cond.swap c) t e)).1 (gen none {} (.ifElse (Cond.swap c) t e)).1.length n₂ 0 s = some s₂ ∧
      srcOf s₁ = srcOf s₂ ∧ s₁.sp = s₂.sp :=
  same_meaning_same_behaviour L _ _ h₁ h₂ c₁ c₂ s o hterm (hterm.of_eq fun f => (compare_swap_law L c f _).ifElse t e)

/-- the code of `while (c) S` with every comparison of `c` written from the other side behaves the same -/
theorem compiled_compare_swap_while (L : Layout) (c : Cond) (b : SStmt)
    (h₁ : SInFragment (.while c b) = true) (h₂ : SInFragment (.while (Cond.swap c) b) = true)
    (c₁ : Scoped false (.while c b) = true) (c₂ : Scoped false (.while (Cond.swap c) b) = true)
    (s : Cpu) (o : Out) (hterm : Sem L (srcOf s) (.while c b) o) :
    ∃ s₁ s₂ n₁ n₂,
      runG L (gen none {} (.while c b)).1 (gen none {} (.while c b)).1.length n₁ 0 s = some s₁ ∧
      runG L (gen none {} (.while (Cond.swap c) b)).1 (gen none {} (.while (Cond.swap c) b)).1.length n₂ 0 s = some s₂ ∧
      srcOf s₁ = srcOf s₂ ∧ s₁.sp = s₂.sp :=
  same_meaning_same_behaviour L _ _ h₁ h₂ c₁ c₂ s o hterm (hterm.of_eq fun f => (compare_swap_law L c f _).while_ b)

/-- a variable as first operand is not a constant, so the generator leaves the operands in their order -/
theorem wordered_wvar (op : BOp) (s : String) (a : WA) : wordered op (.wvar s) a = (.wvar s, a) := by
  simp [wordered, WA.isConst]

/-- `s ∘= w` and `s = s ∘ w` on a 16-bit variable are the same code, line for line -/
theorem wide_opassign_same_code (zp : String → Bool) (s : String) (op : BOp) (a : WA) :
    rgenText zp (.opasgW s op a) = rgenText zp (.binW s op (.wvar s) a) := by
  simp only [rgenText, rtemplate, wordered_wvar]

/-- `s ∘= w` ≡ `s = s ∘ w` on a 16-bit variable -/
theorem wide_opassign_law (L : Layout) (σ : SrcSt) (s : String) (op : BOp) (a : WA) :
    rspec L σ (.opasgW s op a) = rspec L σ (.binW s op (.wvar s) a) := by
  simp only [rspec, wordered_wvar]

/-- a commutative operator with a compound operand: `a ∘ (e)` and `(e) ∘ a` are the same code -/
theorem linear_comm_same_code (zp : String → Bool) (v : LV) (x : RA) (op : BOp) (e : LExpr) (h : op ≠ .sub) :
    rgenText zp (.lin v (.right x op e)) = rgenText zp (.lin v (.left e op x)) := by
  simp [rgenText, rtemplate, linCode, beq_false_of_ne h]

/-- `lv = a ∘ (e)` ≡ `lv = (e) ∘ a` for a commutative operator -/
theorem linear_comm_law (L : Layout) (σ : SrcSt) (v : LV) (x : RA) (op : BOp) (e : LExpr) (h : op ≠ .sub) :
    rspec L σ (.lin v (.right x op e)) = rspec L σ (.lin v (.left e op x)) := by
  simp [rspec, linVal, beq_false_of_ne h]

/-- `s++` and `s += 1` on a 16-bit variable (different code: INC / BNE / INC against CLC / ADC #1 / ADC #0) leave the
    same 16-bit value in `s` -/
theorem wide_incr_law (L : Layout) (σ : SrcSt) (s : String) (f : Nat) (hsep : L s + 1 ≠ L s) :
    ∃ σ₁, sem L (f + 3) σ (incW s) = some (.norm, σ₁) ∧
      wordAt L σ₁.mem s = wordAt L (rspec L σ (.opasgW s .add (.wconst 1))).mem s := by
  obtain ⟨σ₁, h1, h2, _⟩ := incW_word L σ s f
  exact ⟨σ₁, h1, h2.trans (binW_word L σ s .add (.wvar s) (.wconst 1) (fun _ e => by cases e; exact hsep) (fun _ e => nomatch e)).1.symm⟩

example : rgenText (fun _ => true) (.opasgW "s" .add (.wconst 1)) ≠ (gen none {} (incW "s")).1.filterMap (fun l => match l with | .ins m (some a) => some (m, GenFlat.text a) | .ins m none => some (m, "") | _ => none) := by decide

/-- two trees the generator accepts, with the same plain value: the same final state outside the compiler's cells -/
theorem tree_equal_value_law (L : Layout) (σ : SrcSt) (v : LV) (e1 e2 : GExpr) (h1 : e1.ok = true) (h2 : e2.ok = true)
    (hn1 : NoTmp L (v.names ++ gexprNames e1)) (hn2 : NoTmp L (v.names ++ gexprNames e2))
    (hv : pureE L σ e1 = pureE L σ e2) :
    EqOff L (rspec L σ (.expr v e1)) (rspec L σ (.expr v e2)) := by
  have a := tree_value_is_plain L σ v e1 h1 hn1
  have b := tree_value_is_plain L σ v e2 h2 hn2
  rw [hv] at a
  simpa [rspec] using a.trans b.symm

/-- `lv = (l) ∘ (r)` ≡ `lv = (r) ∘ (l)` for a commutative operator, outside the compiler's cells (the two trees may
    spill differently) -/
theorem tree_comm_law (L : Layout) (σ : SrcSt) (v : LV) (l r : GExpr) (op : BOp) (hop : op ≠ .sub)
    (h1 : (GExpr.bin l op r).ok = true) (h2 : (GExpr.bin r op l).ok = true)
    (hn : NoTmp L (v.names ++ (gexprNames l ++ gexprNames r))) :
    EqOff L (rspec L σ (.expr v (.bin l op r))) (rspec L σ (.expr v (.bin r op l))) :=
  tree_equal_value_law L σ v _ _ h1 h2 hn (by simpa only [gexprNames, NoTmp.append, and_comm] using hn)
    (BOp.apply_comm op (BOp.commutes_of_ne_sub hop) _ _)

/-- `lv = ((x) ∘ (y)) ∘ (z)` ≡ `lv = (x) ∘ ((y) ∘ (z))` for an associative operator, outside the compiler's cells -/
theorem tree_assoc_law (L : Layout) (σ : SrcSt) (v : LV) (x y z : GExpr) (op : BOp) (hop : op ≠ .sub)
    (h1 : (GExpr.bin (.bin x op y) op z).ok = true) (h2 : (GExpr.bin x op (.bin y op z)).ok = true)
    (hn : NoTmp L (v.names ++ (gexprNames x ++ gexprNames y ++ gexprNames z))) :
    EqOff L (rspec L σ (.expr v (.bin (.bin x op y) op z))) (rspec L σ (.expr v (.bin x op (.bin y op z)))) :=
  tree_equal_value_law L σ v _ _ h1 h2 hn (by simpa only [gexprNames, List.append_assoc] using hn)
    (BOp.apply_assoc op (BOp.commutes_of_ne_sub hop) _ _ _)

/-- `(e) << 1` and `(e) + (e)`: different code, the same result -/
theorem shift_is_doubling_law (L : Layout) (σ : SrcSt) (v : LV) (e : GExpr)
    (h1 : (GExpr.sh e true 1).ok = true) (h2 : (GExpr.bin e .add e).ok = true)
    (hn : NoTmp L (v.names ++ gexprNames e)) :
    EqOff L (rspec L σ (.expr v (.sh e true 1))) (rspec L σ (.expr v (.bin e .add e))) := by
  refine tree_equal_value_law L σ v _ _ h1 h2 hn (by simpa only [gexprNames, NoTmp.append, and_self] using hn) ?_
  simp only [pureE, shVal, if_true, BOp.apply]
  generalize pureE L σ e = x
  bv_omega

/-- `~(e)` twice is `e` -/
theorem double_complement_law (L : Layout) (σ : SrcSt) (e : GExpr) :
    pureE L σ (.bin (.bin e .bxor (.atom (.of (.const 255)))) .bxor (.atom (.of (.const 255)))) = pureE L σ e := by
  simp only [pureE, BOp.apply, rval, val]
  generalize pureE L σ e = x
  rw [BitVec.xor_assoc]
  simp

/-- `s == t` and `t == s` on 16-bit variables: different code (the operands change places in the subtraction), the same
    truth value, and states that differ only in the scratch cell -/
theorem wide_compare_symmetric_law (L : Layout) (σ : SrcSt) (ne : Bool) (s t : String)
    (hn : NoTmp L [Atom.var s, Atom.el s (.k 1), Atom.var t, Atom.el t (.k 1)]) :
    evalCond L σ (.wcmp ne s (.wvar t)) = evalCond L σ (.wcmp ne t (.wvar s)) ∧
      EqOff L (condEff L σ (.wcmp ne s (.wvar t))) (condEff L σ (.wcmp ne t (.wvar s))) := by
  have hn' : NoTmp L ([Atom.var s, .el s (.k 1)] ++ [Atom.var t, .el t (.k 1)]) := hn
  have hn'' : NoTmp L ([Atom.var t, .el t (.k 1)] ++ [Atom.var s, .el s (.k 1)]) := NoTmp.append.mpr ⟨hn'.of_append_right, hn'.of_append_left⟩
  obtain ⟨v1, e1⟩ := C01.wide_condition_is_word_compare L σ ne s (.wvar t) hn
  obtain ⟨v2, e2⟩ := C01.wide_condition_is_word_compare L σ ne t (.wvar s) hn''
  exact ⟨by rw [v1, v2]; simp only [wval, bne, BEq.comm (a := wordAt L σ.mem s)], e1.trans e2.symm⟩

/-- the two spellings are different code (the hypotheses of `tree_comm_law` are met by trees that spill differently) -/
example : rgenText (fun _ => true) (.expr (.var "v") (.bin (.bin (.atom (.of (.var "a"))) .add (.atom (.of (.var "b")))) .bxor
      (.bin (.atom (.of (.var "c"))) .band (.atom (.of (.var "d")))))) ≠
    rgenText (fun _ => true) (.expr (.var "v") (.bin (.bin (.atom (.of (.var "c"))) .band (.atom (.of (.var "d")))) .bxor
      (.bin (.atom (.of (.var "a"))) .add (.atom (.of (.var "b")))))) := by decide
example : (GExpr.bin (.bin (.atom (.of (.var "a"))) .add (.atom (.of (.var "b")))) .bxor
      (.bin (.atom (.of (.var "c"))) .band (.atom (.of (.var "d"))))).ok = true ∧
    (GExpr.bin (.bin (.atom (.of (.var "c"))) .band (.atom (.of (.var "d")))) .bxor
      (.bin (.atom (.of (.var "a"))) .add (.atom (.of (.var "b"))))).ok = true := by decide

/-! non-vacuity: the spellings are different code, and both are in the fragment -/
def demoC : Cond := .cmp .lt (.of (.var "a")) (.of (.var "b"))
example : (gen none {} (.ifElse demoC (.flat (.inc (.var "c"))) (.flat (.dec (.var "c"))))).1
    ≠ (gen none {} (.ifElse (Cond.neg demoC) (.flat (.dec (.var "c"))) (.flat (.inc (.var "c"))))).1 := by decide
example : (gen none {} (.while demoC (.flat (.inc (.var "a"))))).1 ≠ (gen none {} (.while (Cond.swap demoC) (.flat (.inc (.var "a"))))).1 := by decide
example : (gen none {} (.for (.asg (.var "a") (.of (.const 0))) demoC (.inc (.var "a")) (.flat (.inc (.var "c"))))).1
    ≠ (gen none {} (.seq (.flat (.asg (.var "a") (.of (.const 0)))) (.while demoC (.seq (.flat (.inc (.var "c"))) (.flat (.inc (.var "a"))))))).1 := by decide
example : SInFragment (.ifElse (Cond.neg demoC) (.flat (.dec (.var "c"))) (.flat (.inc (.var "c")))) = true := by decide
example : SInFragment (.while (Cond.swap demoC) (.flat (.inc (.var "a")))) = true := by decide

end CV.C15
