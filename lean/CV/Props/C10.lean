/-
  Property C10 — compile-time constant expressions evaluate as in C.
  Model: CV.Calc over the tables translated from src/compile.rs on every run (the operator and prefix arms of
  `parse_calc`, the three Pratt tables, the radix arms of `parse_int`).
  Specification: `cBin` / `cUn` (C's operators on mathematical integers, `none` = undefined or does not fit), `cLevel`.
  Unary minus panics on overflow (`chk`) without a theorem; the ternary operator is covered by test vectors only.
  Trusted: pest's `PrattParser` implements precedence climbing for the table it is given; the port in CV.Calc is
  validated against it by the correspondence.
-/
import CV.Calc
namespace CV.C10
open CV.Calc CV.Gen

def ok32 (v : Int) : Option Int := if fits v then some v else none

def cBin (rule : String) (a b : Int) : Option Int :=
  if rule == "mul" then ok32 (a * b)
  else if rule == "div" then (if b == 0 then none else ok32 (Int.tdiv a b))
  else if rule == "add" then ok32 (a + b)
  else if rule == "sub" then ok32 (a - b)
  else if rule == "and" then some (bitop Nat.land a b)
  else if rule == "or" then some (bitop Nat.lor a b)
  else if rule == "xor" then some (bitop Nat.xor a b)
  else if rule == "brs" then (if 0 ≤ b && b < 32 then some (a / 2 ^ b.toNat) else none)
  else if rule == "bls" then (if 0 ≤ b && b < 32 && fits (a * 2 ^ b.toNat) then some (a * 2 ^ b.toNat) else none)
  else if rule == "land" then some (b2i (a != 0 && b != 0))
  else if rule == "lor" then some (b2i (a != 0 || b != 0))
  else if rule == "gt" then some (b2i (a > b))
  else if rule == "gte" then some (b2i (a ≥ b))
  else if rule == "lt" then some (b2i (a < b))
  else if rule == "lte" then some (b2i (a ≤ b))
  else if rule == "eq" then some (b2i (a == b))
  else if rule == "neq" then some (b2i (a != b))
  else none

def cUn (rule : String) (a : Int) : Option Int :=
  if rule == "neg" then ok32 (-a)
  else if rule == "not" then some (b2i (a == 0))
  else if rule == "bnot" then some (-a - 1)
  else none

/-- rows (rule, kind, operator): which arm implements which spelling -/
def expectedInfix : List (String × String × String) :=
  [("mul", "arith", "mul"), ("div", "arith", "divChecked"), ("add", "arith", "add"), ("sub", "arith", "sub"),
   ("and", "arith", "band"), ("or", "arith", "bor"), ("xor", "arith", "bxor"), ("brs", "arith", "shr"),
   ("bls", "arith", "shl"), ("land", "logic", "land"), ("lor", "logic", "lor"), ("gt", "cmp", "gt"),
   ("gte", "cmp", "ge"), ("lt", "cmp", "lt"), ("lte", "cmp", "le"), ("eq", "cmp", "eq"), ("neq", "cmp", "ne")]

def binaryRules : List String := expectedInfix.map (·.1)

theorem infix_arms_are_C :
    ∀ r ∈ binaryRules, calcInfixArms.find? (·.1 == r) = expectedInfix.find? (·.1 == r) := by decide +kernel

theorem prefix_arms_are_C :
    calcPrefixArms.find? (·.1 == "neg") = some ("neg", "neg") ∧
    calcPrefixArms.find? (·.1 == "not") = some ("not", "lognot") ∧
    calcPrefixArms.find? (·.1 == "bnot") = some ("bnot", "bitnot") := by decide

theorem wrap32_of_fits (v : Int) (h : fits v = true) : wrap32 v = v := by
  simp only [fits, Bool.and_eq_true, decide_eq_true_eq] at h
  simp only [wrap32]
  split <;> omega

def Agrees (c : Option Int) (o : Out) : Prop := ∀ v, c = some v → o = .ok v

theorem agrees_some (v : Int) : Agrees (some v) (.ok v) := fun _ h => by cases h; rfl

theorem agrees_none (o : Out) : Agrees none o := nofun

theorem agrees_chk (v : Int) : Agrees (ok32 v) (chk v) := by
  unfold ok32 chk; split
  · exact agrees_some v
  · exact agrees_none _

theorem applyInfix_agrees_arms :
    ∀ e ∈ expectedInfix, ∀ a b, Agrees (cBin e.1 a b) (applyInfix e.2.1 e.2.2 a b) := by
  simp only [expectedInfix, List.forall_mem_cons, List.not_mem_nil, false_imp_iff, implies_true, and_true]
  -- `↓reduceIte` decides each test of the two `if` chains before looking into its branches
  and_intros <;> intro a b <;>
    simp only [cBin, applyInfix, String.reduceBEq, Bool.false_eq_true, ↓reduceIte, agrees_some, agrees_chk]
  · -- `div`
    split
    · exact agrees_none _
    · exact agrees_chk _
  · -- `brs`
    split
    · exact agrees_some _
    · exact agrees_none _
  · -- `bls`: C also asks that the result fits, and then the calculator's wrapping changes nothing
    intro v h
    split at h
    · rename_i hc
      have hc := (Bool.and_eq_true _ _).mp hc
      cases h
      rw [if_pos hc.1, wrap32_of_fits _ hc.2]
    · cases h

/-- each arm computes C's value whenever C defines one -/
theorem applyInfix_agrees (r k o : String) (a b v : Int)
    (hm : (r, k, o) ∈ expectedInfix) (hc : cBin r a b = some v) : applyInfix k o a b = .ok v :=
  applyInfix_agrees_arms _ hm a b v hc

theorem applyPrefix_agrees (a v : Int) :
    (cUn "neg" a = some v → applyPrefix "neg" a = .ok v) ∧
    (cUn "not" a = some v → applyPrefix "lognot" a = .ok v) ∧
    (cUn "bnot" a = some v → applyPrefix "bitnot" a = .ok v) :=
  ⟨agrees_chk (-a) v, agrees_some _ v, agrees_some _ v⟩

/-- Undefined in C, and no value comes out: a zero divisor is an error, the others panic. Not stated: overflow of `-`
    (C16: `calc_panic_iff_overflow`) and of unary minus; not true of a `<<` with a count in range whose result does not
    fit (the arm wraps it). -/
theorem undefined_is_rejected (a : Int) :
    applyInfix "arith" "divChecked" a 0 = .err ∧
    (∀ b, fits (a * b) = false → applyInfix "arith" "mul" a b = .panic) ∧
    (∀ b, fits (a + b) = false → applyInfix "arith" "add" a b = .panic) ∧
    (∀ b, (b < 0 ∨ 32 ≤ b) → applyInfix "arith" "shl" a b = .panic ∧ applyInfix "arith" "shr" a b = .panic) := by
  refine ⟨by simp [applyInfix], ?_, ?_, ?_⟩
  · intro b h; simp [applyInfix, chk, h]
  · intro b h; simp [applyInfix, chk, h]
  · intro b h
    have : (decide (0 ≤ b) && decide (b < 32)) = false := by
      rcases h with h | h <;> simp <;> omega
    simp [applyInfix, this]

/-- higher binds tighter; all left associative -/
def cLevel (rule : String) : Option Nat :=
  if rule == "lor" then some 1 else if rule == "land" then some 2 else if rule == "or" then some 3
  else if rule == "xor" then some 4 else if rule == "and" then some 5
  else if rule == "eq" || rule == "neq" then some 6
  else if rule == "lt" || rule == "lte" || rule == "gt" || rule == "gte" then some 7
  else if rule == "bls" || rule == "brs" then some 8
  else if rule == "add" || rule == "sub" then some 9
  else if rule == "mul" || rule == "div" then some 10
  else none

/-- as C on every pair of binary operators -/
def tableOK (t : List (List (String × String))) : Bool :=
  binaryRules.all fun r1 => binaryRules.all fun r2 =>
    match lookup t r1, lookup t r2, cLevel r1, cLevel r2 with
    | some (p1, a1), some (p2, _), some c1, some c2 =>
      a1 == "infixL" && (decide (p1 < p2) == decide (c1 < c2)) && (decide (p1 = p2) == decide (c1 = c2))
    | _, _, _, _ => false

/-- `lookup` numbers the levels of a table 10, 20, …; a table that lists the binary operators level by level in C's
    order puts each at `10 * (C's level) + k` for one `k` -/
theorem tableOK_of_levels (t : List (List (String × String))) (k : Nat)
    (h : ∀ r ∈ binaryRules, ∃ c, cLevel r = some c ∧ lookup t r = some (10 * c + k, "infixL")) :
    tableOK t = true := by
  simp only [tableOK, List.all_eq_true]
  intro r1 h1 r2 h2
  obtain ⟨c1, e1, l1⟩ := h r1 h1
  obtain ⟨c2, e2, l2⟩ := h r2 h2
  simp [e1, e2, l1, l2]
  omega

theorem tables_are_C : tableOK prattCalc = true ∧ tableOK prattMain = true ∧ tableOK prattInit = true :=
  -- `k`: ten for each level the table has below `||` (the two halves of `?:`, the assignments, the comma)
  ⟨tableOK_of_levels _ 20 (by decide), tableOK_of_levels _ 40 (by decide), tableOK_of_levels _ 30 (by decide)⟩

/-- what `parse_calc` hands on for "condition false, no value yet" between the two halves of `?:` (taken from the
    source on every run); an operand equal to it is mistaken for that -/
def SENT : Int := calcSentinel

def tern (c a b : Int) : List Tok :=
  [.num (.ok c), .op "ternary_cond1", .num (.ok a), .op "ternary_cond2", .num (.ok b)]

/-- simple ternaries (tests of the encoding); the sentinel as an operand is already wrong -/
theorem ternary_simple_cases :
    evalTokens (tern 1 5 6) = .ok 5 ∧ evalTokens (tern 0 5 6) = .ok 6 ∧ evalTokens (tern (-3) 0 6) = .ok 0 ∧
    evalTokens (tern 1 SENT 6) = .ok 6 := by decide +kernel

/-- `0 ? 1 ? 2 : 3 : 4` is 4 in C, 3 here (known finding, DESIGN.md section 7 row 3) -/
theorem ternary_nested_witness :
    evalTokens [.num (.ok 0), .op "ternary_cond1", .num (.ok 1), .op "ternary_cond1", .num (.ok 2),
                .op "ternary_cond2", .num (.ok 3), .op "ternary_cond2", .num (.ok 4)] = .ok 3 := by decide +kernel

example : evalTokens [.num (.ok 0), .op "eq", .num (.ok 1), .op "lt", .num (.ok 0)] = .ok 1 := by decide +kernel
example : evalTokens [.op "not", .num (.ok 0)] = .ok 1 := by decide +kernel
example : evalTokens [.num (.ok 7), .op "sub", .num (.ok 2), .op "sub", .num (.ok 1)] = .ok 4 := by decide +kernel
example : cBin "div" 7 (-2) = some (-3) ∧ cBin "div" 1 0 = none := by decide

end CV.C10
