/-
  Property C14 — inlining is transparent.
  Model: CV.Inline.appendCode / pushCode (port of append_code / push_code).
  Specification: `skeleton` for "the same instructions", `labelIndex` for "the same control-flow graph". That labels
  stay unique under any sequence of expansions, and that one expansion keeps references closed, is C13's.
  Not proved: the final step from "same instructions, same control-flow graph, return = jump past the body" to
  equality of runs with the `JSR`/`RTS` version (stack pointer excursion of JSR), and that the generator emits the
  same body in both modes; decided by co-execution of every inline/non-inline marking of generated programs in the
  check (partial).
-/
import CV.Props.C13
namespace CV.C14
open CV.C13

/-- a line with its label-dependent part erased -/
def skeleton : Line → Line
  | .label _ => .label ""
  | .instr i => if i.mn.isRenamed then .instr { i with opd := "" } else .instr i
  | l => l

theorem skeleton_rename (n : Nat) (l : Line) : skeleton (renameLine n l) = skeleton l := by
  cases l with
  | label s => simp [renameLine, skeleton]
  | instr i =>
    by_cases h : i.mn.isRenamed = true <;> simp [renameLine, skeleton, h]
  | inline t s => simp [renameLine, skeleton]
  | comment s => simp [renameLine, skeleton]
  | dummy => simp [renameLine, skeleton]

/-- the expansion changes nothing but label names -/
theorem expansion_preserves_instructions (caller callee : Code) (n : Nat) :
    (appendCode caller callee n).map skeleton = caller.map skeleton ++ callee.map skeleton := by
  simp [appendCode, List.map_map, Function.comp_def, skeleton_rename]

/-- position of the first definition of a label -/
def labelIndex : Code → String → Option Nat
  | [], _ => none
  | .label l :: r, t => if l = t then some 0 else (labelIndex r t).map (· + 1)
  | _ :: r, t => (labelIndex r t).map (· + 1)

theorem labelIndex_eq_findIdx (c : Code) (t : String) : labelIndex c t = c.findIdx? (fun x => decide (x = .label t)) := by
  induction c with
  | nil => rfl
  | cons x xs ih => cases x <;> simp [labelIndex, List.findIdx?_cons, ih]

theorem mem_labelsOf {c : Code} {t : String} : t ∈ labelsOf c ↔ Line.label t ∈ c := by
  induction c with
  | nil => simp [labelsOf]
  | cons x xs ih => cases x <;> simp [labelsOf, ih, eq_comm]

theorem labelIndex_none_of_not_mem (c : Code) (t : String) (h : t ∉ labelsOf c) : labelIndex c t = none := by
  rw [labelIndex_eq_findIdx, List.findIdx?_eq_none_iff]
  intro x hx
  simpa using fun e : x = .label t => h (mem_labelsOf.mpr (e ▸ hx))

theorem labelsOf_mem_of_index (c : Code) (t : String) (h : t ∈ labelsOf c) : (labelIndex c t).isSome := by
  rw [labelIndex_eq_findIdx, List.findIdx?_isSome, List.any_eq_true]
  exact ⟨_, mem_labelsOf.mp h, by simp⟩

theorem renameLine_eq_label (n : Nat) (x : Line) (t : String) :
    decide (renameLine n x = .label (t ++ suffixOf n)) = decide (x = .label t) := by
  cases x with
  | label l =>
    have : l ++ suffixOf n = t ++ suffixOf n ↔ l = t := ⟨fun e => (rename_injective l t n n e).1, fun e => e ▸ rfl⟩
    simp [renameLine, this]
  | instr i => simp only [renameLine]; split <;> simp
  | _ => simp [renameLine]

theorem labelIndex_rename (c : Code) (n : Nat) (t : String) :
    labelIndex (c.map (renameLine n)) (t ++ suffixOf n) = labelIndex c t := by
  simp only [labelIndex_eq_findIdx, List.findIdx?_map, Function.comp_def, renameLine_eq_label]

theorem labelIndex_push (caller callee : Code) (n : Nat) (s : String) :
    labelIndex (pushCode caller callee n) s
      = ((labelIndex caller s).or ((labelIndex (callee.map (renameLine n)) s).map (· + caller.length))).or
          (if s = ".endof" ++ suffixOf n then some (caller.length + callee.length) else none) := by
  simp only [pushCode, appendCode, endof_eq, labelIndex_eq_findIdx, List.findIdx?_append, List.findIdx?_singleton,
    List.length_append, List.length_map]
  split <;> simp_all [eq_comm]

theorem labelIndex_fresh {caller : Code} {n : Nat} (hfresh : FreshFrom n caller) (t : String) :
    labelIndex caller (t ++ suffixOf n) = none :=
  labelIndex_none_of_not_mem _ _ fun hmem => hfresh _ hmem n (Nat.le_refl _) t rfl

/-- the control-flow graph of the body is preserved: a branch to `t` inside the callee, renamed to
    `t ++ suffix`, resolves in the expanded caller to the image of `t`'s position -/
theorem label_lookup_commutes (caller callee : Code) (n : Nat) (t : String) (k : Nat)
    (hfresh : FreshFrom n caller) (hk : labelIndex callee t = some k) :
    labelIndex (pushCode caller callee n) (t ++ suffixOf n) = some (caller.length + k) := by
  simp [labelIndex_push, labelIndex_fresh hfresh, labelIndex_rename, hk, Nat.add_comm]

/-- the inline `return` (`JMP .endof`, renamed) lands on the line right after the body -/
theorem endof_lands_after_body (caller callee : Code) (n : Nat)
    (hfresh : FreshFrom n caller) (hno : ".endof" ∉ labelsOf callee) :
    labelIndex (pushCode caller callee n) (".endof" ++ suffixOf n) = some (caller.length + callee.length) := by
  simp [labelIndex_push, labelIndex_fresh hfresh, labelIndex_rename, labelIndex_none_of_not_mem _ _ hno]

example : labelIndex (pushCode [Line.label ".m", mkJmp ".m"] callee 1) (".a" ++ suffixOf 1) = some 2 := by decide

end CV.C14
