/-
  Property C17 — split-port cartridge RAM is read and written through the right ports.
  Model: CV.AsmSel.portOffset / asmSel (port of the offset logic of asm()), CV.Exec.accessKind
  (which 6502 instructions read, write or both — from the MOS semantics).
  The ports: Superchip is written at offset 0, read at $80; 3E / 3E+ on-chip RAM is written $400 / $200 above the read
  port; other memory classes get offset 0. asm() does not reject a read-modify-write instruction on a split-port
  variable (`rmw_not_rejected_witness`): avoiding them is left to the callers.
  Not proved: that the generator never calls asm() with a read-modify-write mnemonic on such a
  variable (known finding: 16-bit in-place shifts) and that programs still compute what the source
  says; both are decided by co-execution on a split-port memory model against CV.CSem.
-/
import CV.AsmSel
import CV.Exec
namespace CV.C17

/-- the 45 mnemonics of `AsmMnemonic` (see `C04.asmMns`) -/
def asmMns : List Mn := Mn.all.take 45

/-- The offset logic and the machine classify `asm()`'s mnemonics alike: `isStore`, for which `asm()` picks the write
    port, are by the MOS semantics (`accessKind`) the instructions that only write; read-modify-write ones go to the
    read port. -/
theorem access_classes :
    ∀ mn ∈ asmMns,
      (accessKind mn = some Acc.wr ↔ isStore mn = true) ∧
      (accessKind mn = some Acc.rmw ↔ mn.cls = MnClass.rmw) ∧
      (accessKind mn = some Acc.rd → mn.cls = MnClass.read) := by decide

theorem superchip_ports (mn : Mn) (sch : Scheme) :
    portOffset mn .superchip sch = (if isStore mn then 0 else 0x80) := by
  simp [portOffset]

theorem onchip_ports_3E (mn : Mn) : portOffset mn .onchip .e3 = (if isStore mn then 0x400 else 0) := by
  simp [portOffset]

theorem onchip_ports_3EP (mn : Mn) : portOffset mn .onchip .e3p = (if isStore mn then 0x200 else 0) := by
  simp [portOffset]

theorem ordinary_unaffected (mn : Mn) (mem : VMem) (sch : Scheme)
    (h1 : mem ≠ .superchip) (h2 : mem ≠ .onchip) : portOffset mn mem sch = 0 := by
  cases mem <;> simp_all [portOffset]

set_option linter.unusedVariables false in -- `hc` is not needed: `asmSel` renders the offset for every mnemonic
/-- the rendered operand of a direct access to a Superchip `char` carries exactly that offset -/
theorem offset_reaches_text (mn : Mn) (name : String) (sch : Scheme) (prot : Bool)
    (hc : mn.cls = MnClass.read ∨ mn.cls = MnClass.store) :
    ∃ i, asmSel mn .abs { name := name, ty := .char, const := false, mem := .superchip, size := 1 } sch true 0 false prot
        = .instr i ∧
      i.opd = (if isStore mn then name else name ++ "+128") := by
  have hz : ((VMem.superchip == VMem.zeropage) = false) := by decide
  simp only [asmSel, hz, superchip_ports]
  refine ⟨_, rfl, ?_⟩
  by_cases h : isStore mn = true
  · simp [h, withOff, plusVal]                       -- offset 0 is not rendered
  · have e : Nat.repr 128 = "128" := by decide
    simp [h, withOff, plusVal, showInt, e, String.append_assoc]

/-- `ASL s` on a Superchip variable: `asm()` emits it, at the read port (`s+128`), where the instruction's write goes
    nowhere. -/
theorem rmw_not_rejected_witness :
    ∃ i, asmSel .ASL .abs { name := "s", ty := .short, const := false, mem := .superchip, size := 1 } .k4 false 0 false false
        = .instr i ∧ i.opd = "s+128" := by
  refine ⟨_, rfl, ?_⟩
  decide

/-! non-vacuity -/
example : portOffset .STA .superchip .k4 = 0 ∧ portOffset .LDA .superchip .k4 = 128 ∧ portOffset .CMP .superchip .k4 = 128 := by decide

end CV.C17
