/-
  Property C06 — diagnostics name the true source location.
  Models: `errorLine` (port of the offset → line loop shared by syntax_error / compiler_error / warning in
  src/compile.rs), CV.Cpp.spliceGroup (physical-line accounting of cpp::process).
  For `loc = 0` the loop counts ALL newlines (one past the last line when the text ends with a newline): the sites
  that pass position 0 cannot be located (known finding, DESIGN.md section 7 row 9). Joining spliced lines attributes
  a logical line to its LAST physical line.
  Not proved: that the mapping has exactly one entry per output line for every mix of constructs (`process` is
  compared with cpp::process, mapping included, by the correspondence) and that every error site passes the offset
  of the offending token (planted-error search).
-/
import CV.Cpp
namespace CV.C06
open CV.Cpp

/-- the loop of `syntax_error`: `for c in chars { if c == '\n' { line += 1 } n += 1; if n == loc { break } }` -/
def errorLineGo (loc : Nat) : Str → Nat → Nat → Nat
  | [], line, _ => line
  | c :: cs, line, n =>
    let line' := if c == '\n' then line + 1 else line
    if n + 1 == loc then line' else errorLineGo loc cs line' (n + 1)

/-- `line_number` when that loop ends, both counters starting at 0: the index at which the three then read
    `mapped_lines` -/
def errorLine (pre : Str) (loc : Nat) : Nat := errorLineGo loc pre 0 0

def newlines (s : Str) : Nat := (s.filter (· == '\n')).length

theorem newlines_cons (c : Char) (s : Str) : newlines (c :: s) = newlines [c] + newlines s := by
  by_cases hc : c = '\n' <;> simp [newlines, hc]; omega

theorem line_step (c : Char) (line : Nat) : (if c == '\n' then line + 1 else line) = line + newlines [c] := by
  by_cases hc : c = '\n' <;> simp [newlines, hc]

/-- once the counter has passed `loc` (or `loc = 0`) the test `n == loc` never fires and the loop runs to the end -/
theorem errorLineGo_eq (loc : Nat) (s : Str) (line n : Nat) :
    errorLineGo loc s line n = line + newlines (if n < loc then s.take (loc - n) else s) := by
  induction s generalizing line n with
  | nil => simp [errorLineGo, newlines]
  | cons c cs ih =>
    simp only [errorLineGo, line_step]
    by_cases he : n + 1 = loc
    · subst he; simp                                -- `take (loc - n)` is `[c]`
    · rw [if_neg (by simpa using he), ih]
      by_cases hlt : n < loc
      · have e : loc - n = (loc - (n + 1)) + 1 := by omega
        rw [if_pos hlt, if_pos (show n + 1 < loc by omega), e, List.take_succ_cons, newlines_cons c (cs.take _), Nat.add_assoc]
      · rw [if_neg hlt, if_neg (show ¬ n + 1 < loc by omega), newlines_cons c cs, Nat.add_assoc]

set_option linter.unusedVariables false in -- `h2` is not needed: past the end, `take` is the whole text
/-- offsets inside the text: the line index is the number of newlines before `loc`, so the mapping entry consulted is
    that of the line the token is on -/
theorem errorLine_eq_newlines_before (pre : Str) (loc : Nat) (h1 : 0 < loc) (h2 : loc ≤ pre.length) :
    errorLine pre loc = newlines (pre.take loc) := by
  simp [errorLine, errorLineGo_eq, h1]

/-- position 0 is not a position: the loop runs to the end -/
theorem errorLine_zero_counts_all (pre : Str) : errorLine pre 0 = newlines pre := by
  simp [errorLine, errorLineGo_eq]

/-- splicing: the counter advances by the number of physical lines consumed -/
theorem splice_consumes :
    ∀ (fuel : Nat) (buf : Str) (n : Nat) (rest : List Str) (b : Str) (n' : Nat) (rest' : List Str),
      spliceGroup fuel buf n rest = (b, n', rest') → n' + rest'.length = n + rest.length := by
  intro fuel buf n rest b n' rest'
  -- `case2`: the buffer ends in a splice and a physical line follows (the recursive call); every other path returns
  fun_induction spliceGroup fuel buf n rest with
  | case2 f buf n crlf hc buf' l r ih => intro h; have := ih h; simp; omega
  | _ => intro h; simp only [Prod.mk.injEq] at h; obtain ⟨-, rfl, rfl⟩ := h; rfl

/-! non-vacuity -/
example : errorLine "ab\ncd\nef".toList 4 = 1 ∧ errorLine "ab\ncd\nef".toList 7 = 2 ∧ errorLine "ab\ncd\n".toList 0 = 2 := by
  repeat rw [String.toList_ofList] -- why: see the note in C08
  decide
example : spliceGroup 5 "a \\\n".toList 1 ["b \\\n".toList, "c\n".toList, "d\n".toList]
    = ("a b c\n".toList, 3, ["d\n".toList]) := by
  repeat rw [String.toList_ofList]
  decide

end CV.C06
