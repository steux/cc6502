/-
  Property C07 — conditional compilation keeps exactly the active text.
  Model: CV.Cpp.Cond (the three-state machine of cpp::process: pushIf / elif / else_ / endif),
  CV.Cpp.evaluate (the `#if` evaluator).
  Specification: C's rule on well-nested trees of conditional groups (`Item` / `Items` / `Branches`: any depth, any
  number of #elif branches, optional #else) under any valuation of the conditions: an item is kept iff in every
  enclosing group the branch containing it is the selected one, the selected branch being the first whose condition
  holds, else the #else (`specI`). An item stands for a text line or a side-effecting directive (#define, #undef,
  #include, #error) alike. The evaluator is covered on the 0/1 fragment by sample evaluations only.
  Not proved (covered by the exhaustive/differential correspondence through hook H2): the text level glue —
  recognising directives, the truth of #ifdef/#ifndef from the macro table, macro replacement inside conditions.
-/
import CV.Cpp
namespace CV.C07
open CV.Cpp

/-- abstract directive stream: conditions already evaluated (`b`), lines/effects numbered -/
inductive Dir
  | ifc (b : Bool) | elif (b : Bool) | else_ | endif | item (n : Nat)
  deriving Repr

/-- the machine of `process`, on the abstract stream; uses the model's own transition functions -/
def step (c : Cond) : Dir → Option (Cond × List Nat)
  | .ifc b => some (c.pushIf b, [])
  | .elif b => some (c.elif b, [])
  | .else_ => some (c.else_, [])
  | .endif => (c.endif).map fun c' => (c', [])
  | .item n => some (c, if c.st == .active then [n] else [])

def run : Cond → List Dir → Option (Cond × List Nat)
  | c, [] => some (c, [])
  | c, d :: ds =>
    match step c d with
    | none => none
    | some (c', out) =>
      match run c' ds with
      | none => none
      | some (c'', out') => some (c'', out ++ out')

theorem run_append (c : Cond) (xs ys : List Dir) :
    run c (xs ++ ys) =
      match run c xs with
      | none => none
      | some (c', o) => match run c' ys with
        | none => none
        | some (c'', o') => some (c'', o ++ o') := by
  induction xs generalizing c with
  | nil => simp [run]; cases run c ys <;> simp
  | cons d ds ih =>
    simp only [List.cons_append, run, ih]
    rcases step c d with _ | ⟨c1, o1⟩
    · rfl
    · dsimp only
      rcases run c1 ds with _ | ⟨c2, o2⟩
      · rfl
      · dsimp only
        rcases run c2 ys with _ | ⟨c3, o3⟩
        · rfl
        · simp only [List.append_assoc]

mutual
inductive Item
  | item : Nat → Item                              -- a text line or a side-effecting directive
  | group : Bool → Items → Branches → Item         -- #if b … (branches) #endif
inductive Items
  | nil : Items
  | cons : Item → Items → Items
inductive Branches
  | fin : Branches                                 -- #endif
  | elif : Bool → Items → Branches → Branches      -- #elif b …
  | els : Items → Branches                         -- #else … #endif
end

mutual
def flatI : Item → List Dir
  | .item n => [.item n]
  | .group b body rest => .ifc b :: (flatIs body ++ flatB rest)
def flatIs : Items → List Dir
  | .nil => []
  | .cons i is => flatI i ++ flatIs is
def flatB : Branches → List Dir
  | .fin => [.endif]
  | .elif b body rest => .elif b :: (flatIs body ++ flatB rest)
  | .els body => .else_ :: (flatIs body ++ [.endif])
end

/-! Specification — C's rule. `on` = every enclosing group selected the branch we are in. -/
mutual
def specI (on : Bool) : Item → List Nat
  | .item n => if on then [n] else []
  | .group b body rest => specIs (on && b) body ++ specB on b rest
def specIs (on : Bool) : Items → List Nat
  | .nil => []
  | .cons i is => specI on i ++ specIs on is
/-- `taken` = an earlier branch of this group had a true condition -/
def specB (on : Bool) (taken : Bool) : Branches → List Nat
  | .fin => []
  | .elif b body rest => specIs (on && !taken && b) body ++ specB on (taken || b) rest
  | .els body => specIs (on && !taken) body
end

def isActive : CState → Bool
  | .active => true
  | _ => false

/-- state inside a group entered from `st`; `taken`: some branch so far was selected, `cur`: the current one is -/
def inGroup (st : CState) (taken cur : Bool) : CState :=
  if st = .active then (if cur then .active else if taken then .skip else .inactive) else .skip

/-! Inside a group entered from `st` the machine passes exactly through the states `inGroup st taken cur` (with
    `cur → taken`), and each directive maps one of them to the next; after these facts the refinement is rewriting. -/

theorem pushIf_eq (st : CState) (stk : List CState) (b : Bool) :
    (⟨st, stk⟩ : Cond).pushIf b = ⟨inGroup st b b, st :: stk⟩ := by
  cases st <;> cases b <;> rfl

theorem elif_inGroup (st : CState) (stk : List CState) (taken cur b : Bool) (h : cur = true → taken = true) :
    (⟨inGroup st taken cur, stk⟩ : Cond).elif b = ⟨inGroup st (taken || b) (!taken && b), stk⟩ := by
  cases st <;> cases taken <;> cases cur <;> cases b <;> first | rfl | simp at h

theorem else_inGroup (st : CState) (stk : List CState) (taken cur : Bool) (h : cur = true → taken = true) :
    (⟨inGroup st taken cur, stk⟩ : Cond).else_ = ⟨inGroup st true (!taken), stk⟩ := by
  cases st <;> cases taken <;> cases cur <;> first | rfl | simp at h

theorem isActive_inGroup (st : CState) (taken cur : Bool) :
    isActive (inGroup st taken cur) = (isActive st && cur) := by
  cases st <;> cases taken <;> cases cur <;> rfl

theorem step_item (st : CState) (stk : List CState) (n : Nat) :
    step ⟨st, stk⟩ (.item n) = some (⟨st, stk⟩, if isActive st then [n] else []) := by
  cases st <;> rfl

mutual
theorem runI (i : Item) (st : CState) (stk : List CState) :
    run ⟨st, stk⟩ (flatI i) = some (⟨st, stk⟩, specI (isActive st) i) := by
  cases i with
  | item n => simp [flatI, run, step_item, specI]
  | group b body rest =>
    simp [flatI, run, step, pushIf_eq, run_append, machine_refines_spec_from body, isActive_inGroup,
      runB rest st stk b b id, specI]
/-- run over the flattened directive stream from any start state and stack, the machine emits exactly the items C's
    rule keeps, in order, and returns to that state and stack -/
theorem machine_refines_spec_from (is : Items) (st : CState) (stk : List CState) :
    run ⟨st, stk⟩ (flatIs is) = some (⟨st, stk⟩, specIs (isActive st) is) := by
  cases is with
  | nil => rfl
  | cons i rest => simp [flatIs, run_append, runI i, machine_refines_spec_from rest, specIs]
/-- the remaining branches of a group entered from `st`, run from the state of the branch just left: back in `st`, the
    group popped -/
theorem runB (r : Branches) (st : CState) (stk : List CState) (taken cur : Bool) (h : cur = true → taken = true) :
    run ⟨inGroup st taken cur, st :: stk⟩ (flatB r)
      = some (⟨st, stk⟩, specB (isActive st) taken r) := by
  cases r with
  | fin => rfl
  | elif b body rest =>
    simp [flatB, run, step, elif_inGroup _ _ _ _ _ h, run_append, machine_refines_spec_from body, isActive_inGroup,
      runB rest st stk (taken || b) (!taken && b) (by cases taken <;> simp), Bool.and_assoc, specB]
  | els body =>
    simp [flatB, run, step, else_inGroup _ _ _ _ h, run_append, machine_refines_spec_from body, isActive_inGroup,
      Cond.endif, specB]
end

/-- … and from the initial state of a file -/
theorem machine_refines_spec (is : Items) :
    run {} (flatIs is) = some ({}, specIs true is) := by
  simpa [isActive] using machine_refines_spec_from is .active []

mutual
theorem specI_off (i : Item) : specI false i = [] := by
  cases i with
  | item n => simp [specI]
  | group b body rest => simp [specI, specIs_off body, specB_off rest]
theorem specIs_off (is : Items) : specIs false is = [] := by
  cases is with
  | nil => simp [specIs]
  | cons i rest => simp [specIs, specI_off i, specIs_off rest]
theorem specB_off (r : Branches) (t : Bool) : specB false t r = [] := by
  cases r with
  | fin => simp [specB]
  | elif b body rest => simp [specB, specIs_off body, specB_off rest]
  | els body => simp [specB, specIs_off body]
end

/-- directives and lines inside unselected regions have no effect -/
theorem unselected_has_no_effect (is : Items) (st : CState) (stk : List CState) (h : st ≠ .active) :
    run ⟨st, stk⟩ (flatIs is) = some (⟨st, stk⟩, []) := by
  rw [machine_refines_spec_from]
  have : isActive st = false := by cases st <;> simp_all [isActive]
  rw [this, specIs_off]

/-- the machine never gets stuck except on an unmatched `#endif` -/
theorem step_total (c : Cond) (d : Dir) : (step c d).isSome = true ∨ (d matches .endif ∧ c.stack = []) := by
  cases d <;> simp [step]
  cases h : c.stack <;> simp [Cond.endif, h]

def evalB (s : String) : Option Bool :=
  match evaluate s.toList with
  | .ok v => some v
  | .error _ => none

/-- only the literal `1` is true; any other number is false (noted in DESIGN.md: `#if 2` is false) -/
theorem evaluate_literals : evalB "1" = some true ∧ evalB "0" = some false ∧ evalB "2" = some false := by
  decide

/-- one more `!` in front negates the value of a unary term (any nesting depth) -/
theorem evalUnary_not (f : Nat) (r : Str) :
    evalUnary (f + 1) ('!' :: r) = (evalUnary f r).map fun p => (!p.1, p.2) := by
  simp [evalUnary, trimStart, isSpace]

/-- sample evaluations of the 0/1 fragment against C's reading (tests, not the unbounded claim: the evaluator's
    agreement with cpp.rs is covered by the correspondence) -/
theorem evaluate_cases :
    evalB "!1" = some false ∧ evalB "!0" = some true ∧ evalB "!!1" = some true ∧
    evalB "1 == 1" = some true ∧ evalB "1 == 0" = some false ∧ evalB "0 == 0" = some true ∧
    evalB "!0 == 1" = some true ∧ evalB "1 == 0 == 0" = some true ∧
    evalB " ! 1  ==  0 " = some true ∧ evalB "foo" = none ∧ evalB "1 1" = none := by
  decide +kernel

/-! non-vacuity: a three-level nest with #elif and #else -/
def demo : Items :=
  .cons (.item 1) (.cons (.group false (.cons (.item 2) .nil)
      (.elif true (.cons (.item 3) (.cons (.group true (.cons (.item 4) .nil) (.els (.cons (.item 5) .nil))) .nil))
        (.els (.cons (.item 6) .nil)))) (.cons (.item 7) .nil))

example : specIs true demo = [1, 3, 4, 7] := by decide
example : run {} (flatIs demo) = some ({}, [1, 3, 4, 7]) := machine_refines_spec demo

end CV.C07
