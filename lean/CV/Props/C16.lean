/-
  Property C16 — compilation is total: a result or a located error, never a crash.
  Every model of this development is a total Lean function, so each place where the Rust code can
  panic, loop or index out of range appears in the model as an explicit outcome (`Far.panic`, `Calc.Out.panic`,
  `SelA.panic`, a `none` of the conditional machine); a pass whose model has no such outcome (`optimize`,
  `appendCode`) returns for every input by being a Lean function. This file states when those outcomes occur: for
  `check_branches`, `asm()`, the conditional machine (C07) and the calculator's arms `mul`, `add`, `sub`, the shifts
  and the comparisons (not stated: unary minus, division — its zero divisor is a structured error, C10 —, the bitwise
  and the logical arms).
  Not covered by proof: the pest parser, the Pratt driver, the unmodelled generator paths (≈ 300
  unwrap / unreachable sites) and the termination of `replace_all` — decided by the mutation search
  of the check under catch_unwind and a watchdog (partial). This property does NOT hold of the
  compiler in /repo: the crash sites found are listed in known_findings.json.
-/
import CV.Calc
import CV.Props.C07
import CV.Proofs.BranchLemmas
import CV.AsmSel
namespace CV.C16

/-- `check_branches` reaches its `unreachable!()` only if some checked branch names a label that is not in the vector -/
theorem findFar_panic_needs_missing_label (code : Code) (h : findFar code = Far.panic) :
    ∃ (k : Nat) (ins : Instr), code[k]? = some (Line.instr ins) ∧ ins.mn.isChecked = true ∧
      Line.label ins.opd ∉ code := by
  obtain ⟨k, ins, h1, h2, h3⟩ := findFarFrom_panic h
  refine ⟨k, ins, h1, h2, ?_⟩
  rw [Nat.zero_add, measure, scan_none_iff] at h3
  intro hm
  rw [← List.take_append_drop (k + 1) code, List.mem_append] at hm
  exact hm.elim (fun h => h3.1 (List.mem_reverse.mpr h)) h3.2

theorem chk_panic_iff (v : Int) : Calc.chk v = .panic ↔ Calc.fits v = false := by
  unfold Calc.chk
  cases Calc.fits v <;> simp

/-- the calculator's arithmetic arms panic exactly on overflow -/
theorem calc_panic_iff_overflow (a b : Int) :
    (Calc.applyInfix "arith" "mul" a b = .panic ↔ Calc.fits (a * b) = false) ∧
    (Calc.applyInfix "arith" "add" a b = .panic ↔ Calc.fits (a + b) = false) ∧
    (Calc.applyInfix "arith" "sub" a b = .panic ↔ Calc.fits (a - b) = false) := by
  -- each of the three arms is `chk` of the exact result
  simp only [Calc.applyInfix, String.reduceBEq, Bool.false_eq_true, ↓reduceIte]
  exact ⟨chk_panic_iff _, chk_panic_iff _, chk_panic_iff _⟩

theorem calc_panic_iff_shift (a b : Int) :
    (Calc.applyInfix "arith" "shl" a b = .panic ↔ ¬ (0 ≤ b ∧ b < 32)) ∧
    (Calc.applyInfix "arith" "shr" a b = .panic ↔ ¬ (0 ≤ b ∧ b < 32)) := by
  -- both arms are `if 0 ≤ b && b < 32 then .ok … else .panic`
  simp only [Calc.applyInfix, String.reduceBEq, Bool.false_eq_true, ↓reduceIte]
  by_cases h : 0 ≤ b ∧ b < 32 <;> simp [h]

/-- "other": the arms that are neither arithmetic nor shifts (the two theorems above); of these the comparisons are
    stated, and they never panic -/
theorem calc_total_other (a b : Int) :
    ∀ op ∈ ["gt", "ge", "lt", "le", "eq", "ne"], Calc.applyInfix "cmp" op a b ≠ .panic := by
  intro op h
  simp only [List.mem_cons, List.not_mem_nil, or_false] at h
  rcases h with rfl | rfl | rfl | rfl | rfl | rfl <;>
    simp only [Calc.applyInfix, String.reduceBEq, Bool.false_eq_true, ↓reduceIte] <;> nofun

theorem cond_step_total (c : Cpp.Cond) (d : C07.Dir) :
    (C07.step c d).isSome = true ∨ (d matches .endif ∧ c.stack = []) := C07.step_total c d

/-- `asm()` reaches its `unreachable!()` exactly for the X / Y operand kinds -/
theorem asmSel_panic_iff (mn : Mn) (k : OKind) (ty : VType) (c zp s1 e h : Bool) :
    selA mn k ty c zp s1 e h = SelA.panic ↔ (k = .regX ∨ k = .regY) := by
  -- `selA` dispatches on `k` first: the two register arms are `.panic`, every other arm is a tree of `if` / `match`
  -- with other leaves. The `if`s go by `iteInduction`, which leaves `split` the `match`es with nothing around them:
  -- on a whole arm every `split` of a `match mn` costs a hundred times as much
  unfold selA
  cases k <;> simp only [reduceCtorEq, or_self, or_true, true_or, iff_false] <;>
    repeat' first
      | exact SelA.noConfusion
      | (apply iteInduction (motive := (· ≠ SelA.panic)) <;> intro _)
      | split

/-! non-vacuity -/
example : findFar [mkBranch .BEQ ".nowhere"] = Far.panic := by decide
example : Calc.applyInfix "arith" "mul" 65536 65536 = .panic := by decide

end CV.C16
