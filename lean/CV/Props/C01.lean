/-
  Property C01 — emitted 6502 code computes what the C source says.
  Models: CV.GenFlat, CV.GenReg, CV.GenStruct (port of the generator for the declared fragment, in stages),
  CV.Mos (6502 semantics); CV.CSem is the C reading used by the co-execution search of the check.

  THE FRAGMENT (`SInFragment`): programs over global `unsigned char` variables, elements of global `unsigned char`
  arrays subscripted by a literal, X or Y, the register variables X and Y, and constants, built from
      lv = a | lv = a ∘ b | lv ∘= a | lv++ | lv--     lv ::= v | t[i] | X | Y    a, b ::= n | v | t[i] | X | Y
      i ::= n | X | Y     ∘ ∈ {+, −, &, |, ^}          (stage 1: v only; stage 3: X and Y; stage 4: array elements)
      s = w | s = w ∘ w | s ∘= w      s an `unsigned short` variable; w ::= s | n ≤ 65535 | v      (stage 6)
      lv = a ∘ b ∘ c …                 chains of two or more operators grouped to the left              (stage 7)
      lv = e    e ::= a ∘ b | (e) ∘ a | a ∘ (e)    linear expressions: one operand of every operator is atomic (stage 8)
      s++ | s--                        on a 16-bit variable, as statements                              (stage 9)
      lv = e    e ::= a | (e) ∘ (e)    any tree the generator accepts (PHA / PLA spills)                 (stage 10)
                e ::= … | (e) << k | (e) >> k | ~(e) | -(e)      k a literal 0..7                        (stage 11)
      { S… } | if (c) S | if (c) S else S | while (c) S | do S while (c); | for (F; c; F) S   (stage 2)
      break; | continue; | if (c) break; | if (c) continue;   inside loops                    (stage 5)
      c ::= a ⋈ b | lv | !lv | c && c | c || c | !c     ⋈ ∈ {==, !=, <, >=, >, <=}
      c ::= … | (e) ⋈ m | m ⋈ (e) | (e) | !(e)          e a tree, m a memory operand or constant            (stage 12)
      c ::= … | (e) ⋈ X | X ⋈ (e)  (also Y)              e a tree that leaves the scratch cell free          (stage 13)
      c ::= … | s == w | s != w | s | !s                 s a 16-bit variable, w as in stage 6                (stage 14)
  nested to any depth, any length. In `a ⋈ b`: no ordered comparison with literal 0, not two constants, not two
  registers, not `t[X] ⋈ X` (element subscripted by a register against a register on the right: the real generator
  compares the register with itself — recorded finding).

  The theorems hold for EVERY program of the fragment, every layout, machine state, generator state and surrounding
  code; there is no bound on program size, nesting or the number of loop iterations. The structural theorems assume
  that the source meaning `sem` is defined (the source terminates) and conclude, beyond memory, X, Y, SP, that the
  generator's belief about the processor flags is true of the machine state — the invariant whose violation was the
  defect class found by this check (function entry, csleep, inlined calls). What the meanings include and leave out:
   * The compared state (`SrcSt`) is memory, X, Y and SP. `rspec` / `sem` include every write the code makes to the
     compiler's own cells: the scratch cell `cctmp` (a register as right operand, the value of a compound operand, the
     hand-over of a tree's value) and the stack page (`PHA` spills). The plain reading of the source (`pureSpec`,
     `semPure`, `evalCondP`: no such writes, no state threaded through conditions; a tree in a condition is still valued
     by `treeVal`) agrees with them up to `EqOff`
     under `NoTmp` (`struct_program_correct_pure`; a program cannot name `cctmp`).
   * stage 4: element addresses are plain sums, without the wrap-around of `zp,X` (`elAddr`,
     `indexed_zero_page_no_wrap`). Templates that depend on the array's placement (`STY t,X` exists only in the zero
     page) take it from the generator state (`GState.abs`), as the real generator does.
   * stage 5: `for` runs the update after a `continue` (`semFor`); C15 proves `for` ≡ `while` only for bodies
     without one.
   * stage 6: `rspec` gives the 16-bit statements byte by byte in the order the code works (low bytes, carry / borrow,
     high bytes read after the low byte was stored): hence the layout hypothesis of `wide_stmt_is_word_arithmetic`.
   * stage 10: on the trees `genE` does not go through with (`GExpr.ok` false) the generator gives up with "Code too
     complex"; the port says so and the tie compares the rejections too.
   * stage 11: `~(e)` is the tree `e ^ 255` and `-(e)` the tree `0 − e`, as in generate_bnot / generate_neg. Outside:
     shifts by 8 and more (special cases of the generator), shifts of constants (folded), signed operands.
   * stage 13: evaluating a condition may write the compiler's own cells (`condRun`); `sem` goes on from the state it
     leaves (`condEff`) on both branches of every `if`, around every loop test, in `if (c) break;`.
     `genCond_correct`: the code jumps iff `evalCond ≠ negate` and leaves exactly `condEff`.
   * stage 14: ordered 16-bit comparisons are outside (recorded findings). Not modelled: after `s++` the real generator
     knows that the flags describe the 16-bit value and tests `s` by the flags alone; the port forgets the belief
     there, and the tie leaves out programs that increment a 16-bit variable and test the same one against 0.
  NOT covered by these theorems (covered by co-execution against CV.CSem in the check, partial): 16-bit shifts, ordered
  comparisons and unary operators, arrays of 16-bit elements, subscripts that are memory operands, switch, calls,
  signed types, pointers; optimisation levels above -O0 (C02's subject).
-/
import CV.Proofs.GenStructMain
import CV.Proofs.GenStructPureSim
import CV.Proofs.GenWordStruct
namespace CV.C01
open CV.GenFlat CV.GenReg CV.GenStruct

theorem adc_after_clc (s : Cpu) (m : Byte) (h : s.f.c = false) : (s.adc m).a = s.a + m := by
  simp [Cpu.adc_a, h]

theorem sbc_after_sec (s : Cpu) (m : Byte) (h : s.f.c = true) : (s.sbc m).a = s.a - m := by
  simp [Cpu.sbc_a, h]

/-- every statement of the stage-1 fragment, every layout, every machine state -/
theorem gen_stmt_correct (L : Layout) (st : FStmt) (s : Cpu) :
    ∃ s', execSeq s (genOps L st) = some s' ∧ s'.mem = spec L s.mem s.x s.y st ∧
      s'.x = s.x ∧ s'.y = s.y ∧ s'.sp = s.sp :=
  GenFlat.gen_stmt_correct L st s

/-- any sequence of such statements -/
theorem gen_block_correct (L : Layout) (sts : List FStmt) (s : Cpu) :
    ∃ s', execSeq s (sts.flatMap (genOps L)) = some s' ∧ s'.mem = specBlock L s.x s.y s.mem sts ∧
      s'.x = s.x ∧ s'.y = s.y ∧ s'.sp = s.sp := by
  induction sts generalizing s with
  | nil => exact ⟨s, rfl, rfl, rfl, rfl, rfl⟩
  | cons st rest ih =>
    obtain ⟨s1, h1, hm1, hx1, hy1, hs1⟩ := gen_stmt_correct L st s
    obtain ⟨s2, h2, hm2, hx2, hy2, hs2⟩ := ih s1
    refine ⟨s2, ?_, ?_, hx2.trans hx1, hy2.trans hy1, hs2.trans hs1⟩
    · rw [List.flatMap_cons]; exact execSeq_trans h1 h2
    · rw [hm2, hm1, hx1, hy1]; rfl

/-- every straight-line statement (`RStmt`: stages 1, 3, 4, 6 to 8, 10, 11), every layout, every machine state: the code
    ends; memory, X and Y are what `rspec` prescribes, SP is where it was, and the generator's belief about the flags
    afterwards is true when it was true before -/
theorem reg_stmt_correct (L : Layout) (zp : String → Bool) (st : RStmt) (fl : Option FRef) (s : Cpu) (hinv : FlagsInv L fl s) :
    ∃ s', execSeq s (rgenOps L zp st) = some s' ∧ srcOf s' = rspec L (srcOf s) st ∧ s'.sp = s.sp ∧
      FlagsInv L (flagsAfter zp fl st) s' :=
  rflat_correct L zp st fl s hinv

/-- stage 6 (`s = w | s = w ∘ w | s ∘= w`, `s` an `unsigned short`): what `rspec` says for these statements, byte pass by
    byte pass, is 16-bit arithmetic — the 16-bit result in `s`, X, Y and every other cell unchanged. About `rspec`
    alone; that the code leaves what `rspec` says is `reg_stmt_correct` -/
theorem wide_stmt_is_word_arithmetic (L : Layout) (σ : SrcSt) (st : RStmt) (s : String) (w : BitVec 16)
    (h : wResult L σ st = some (s, w)) (hsep : ∀ x ∈ wOperands st, ∀ t, x = .wvar t → L t + 1 ≠ L s) :
    wordAt L (rspec L σ st).mem s = w ∧ (rspec L σ st).x = σ.x ∧ (rspec L σ st).y = σ.y ∧
      ∀ a, a ≠ L s → a ≠ L s + 1 → (rspec L σ st).mem.read a = σ.mem.read a :=
  wide_stmt_word L σ st s w h hsep

/-- the machine code of a 16-bit statement computes the 16-bit result: for every layout in which the high cell of no
    16-bit operand is the low cell of the destination (each variable has its own cells), every machine state -/
theorem wide_code_correct (L : Layout) (zp : String → Bool) (st : RStmt) (c : Cpu) (s : String) (w : BitVec 16)
    (h : wResult L (srcOf c) st = some (s, w)) (hsep : ∀ x ∈ wOperands st, ∀ t, x = .wvar t → L t + 1 ≠ L s) :
    ∃ c', execSeq c (rgenOps L zp st) = some c' ∧ wordAt L c'.mem s = w ∧ c'.x = c.x ∧ c'.y = c.y ∧ c'.sp = c.sp ∧
      ∀ a, a ≠ L s → a ≠ L s + 1 → c'.mem.read a = c.mem.read a := by
  obtain ⟨c', h1, h2, h3, _⟩ := rflat_correct L zp st none c trivial
  obtain ⟨w1, w2, w3, w4⟩ := wide_stmt_word L (srcOf c) st s w h hsep
  rw [← h2] at w1 w2 w3 w4
  exact ⟨c', h1, w1, w2, w3, h3, w4⟩

/-- stage 9: `s++` on a 16-bit variable is a derived statement (`incW`: "low byte ++ ; if it became 0, high byte ++",
    the lines `INC s ; BNE .ifendN ; INC s+1 ; .ifendN:` the generator emits), so every structural theorem applies to
    it; its meaning is 16-bit arithmetic -/
theorem wide_increment_is_word_arithmetic (L : Layout) (σ : SrcSt) (s : String) (f : Nat) :
    ∃ σ', sem L (f + 3) σ (incW s) = some (.norm, σ') ∧ wordAt L σ'.mem s = wordAt L σ.mem s + 1 ∧
      σ'.x = σ.x ∧ σ'.y = σ.y ∧ ∀ a, a ≠ L s → a ≠ L s + 1 → σ'.mem.read a = σ.mem.read a :=
  incW_word L σ s f

/-- stage 9: `s--` likewise (`decW`: "if the low byte is 0, high byte -- ; low byte --") -/
theorem wide_decrement_is_word_arithmetic (L : Layout) (σ : SrcSt) (s : String) (f : Nat) :
    ∃ σ', sem L (f + 4) σ (decW s) = some (.norm, σ') ∧ wordAt L σ'.mem s = wordAt L σ.mem s - 1 ∧
      σ'.x = σ.x ∧ σ'.y = σ.y ∧ ∀ a, a ≠ L s → a ≠ L s + 1 → σ'.mem.read a = σ.mem.read a :=
  decW_word L σ s f

example : SInFragment (incW "p") = true ∧ SInFragment (decW "p") = true ∧ Scoped false (.seq (incW "p") (decW "p")) = true := by decide
example : (gen none {} (.seq (incW "p") (decW "p"))).1.map GLine.text =
    (gen none {} (.seq (incW "p") (decW "p"))).1.map GLine.text := rfl
example : ((gen none {} (incW "p")).1).length = 4 ∧ ((gen none {} (decW "p")).1).length = 5 := by decide

/-- the two byte passes are 16-bit arithmetic (carry of the addition, borrow of the subtraction) -/
theorem byte_passes_are_word_arithmetic (op : BOp) (a1 a0 b1 b0 : Byte) :
    word (highRes op (lowRes op a0 b0).2 a1 b1) (lowRes op a0 b0).1 = op.apply16 (word a1 a0) (word b1 b0) :=
  passes_word op a1 a0 b1 b0

/-! non-vacuity of stage 6: the templates, a layout that meets the separation hypothesis, a concrete result -/
example : rgenText (fun _ => true) (.binW "s" .add (.wvar "t") (.wconst 300)) =
    [(.LDA, "t"), (.CLC, ""), (.ADC, "#44"), (.STA, "s"), (.LDA, "t+1"), (.ADC, "#1"), (.STA, "s+1")] := by decide
example : rgenText (fun _ => true) (.binW "s" .add (.wconst 256) (.wbyte "a")) =
    [(.LDA, "a"), (.CLC, ""), (.STA, "s"), (.LDA, "#0"), (.ADC, "#1"), (.STA, "s+1")] := by decide
example : rgenText (fun _ => true) (.opasgW "s" .band (.wconst 255)) =
    [(.LDA, "s"), (.STA, "s"), (.LDA, "#0"), (.STA, "s+1")] := by decide
example : rgenText (fun _ => true) (.binW "s" .sub (.wvar "t") (.wconst 256)) =
    [(.LDA, "t"), (.SEC, ""), (.SBC, "#0"), (.STA, "s"), (.LDA, "t+1"), (.SBC, "#1"), (.STA, "s+1")] := by decide
example : (fun n : String => if n == "s" then (0x80 : Word) else 0x82) "t" + 1 ≠ (fun n : String => if n == "s" then (0x80 : Word) else 0x82) "s" := by decide
example : word (highRes .add (lowRes .add 0xff 0x01).2 0x00 0x00) (lowRes .add 0xff 0x01).1 = 0x0100 := by decide

/-- structured statements in any context, inside any loop: the statement's code runs from its first line to just behind
    its last line when the source statement ends normally (and the generator's flag belief holds there), to the
    `continue` / `break` label of the enclosing loop (`tc`, `tb`: wherever the enclosing code has them) when it ends
    that way, with the memory, X and Y of `sem` -/
theorem struct_correct_in_context (L : Layout) (st : SStmt) (fuel : Nat) (σ : SrcSt) (out : Out)
    (hsem : sem L fuel σ st = some out) (hfr : SInFragment st = true)
    (lp : LoopCtx) (g : GState) (pre post : List GLine) (s : Cpu) (tc tb : Nat)
    (hsc : Scoped lp.isSome st = true) (hold : Old g pre) (hm : srcOf s = σ) (hflags : FlagsInv L g.flags s)
    (hlp : LoopOK lp (pre ++ (gen lp g st).1 ++ post) tc tb (contHere st)) :
    ResultO L (pre ++ (gen lp g st).1 ++ post) pre.length s (pre.length + (gen lp g st).1.length) tc tb out (gen lp g st).2.flags :=
  -- generated labels are new and distinct, so the code is `Placed` behind older code
  correct_placed L fuel st σ out hsem hfr lp g _ _ s tc tb hsc ((gen_tidy st lp g).placed post hold) hm hflags hlp

/-- the three cases of `ResultO`, spelled out -/
theorem resultO_norm (L : Layout) (code : List GLine) (p q tc tb : Nat) (s : Cpu) (σ' : SrcSt) (fl : Option FRef)
    (h : ResultO L code p s q tc tb (.norm, σ') fl) :
    ∃ s', Steps L code p s q s' ∧ srcOf s' = σ' ∧ FlagsInv L fl s' ∧ s'.sp = s.sp := h
theorem resultO_break (L : Layout) (code : List GLine) (p q tc tb : Nat) (s : Cpu) (σ' : SrcSt) (fl : Option FRef)
    (h : ResultO L code p s q tc tb (.brk, σ') fl) :
    ∃ s', Steps L code p s tb s' ∧ srcOf s' = σ' ∧ s'.sp = s.sp := h
theorem resultO_continue (L : Layout) (code : List GLine) (p q tc tb : Nat) (s : Cpu) (σ' : SrcSt) (fl : Option FRef)
    (h : ResultO L code p s q tc tb (.cont, σ') fl) :
    ∃ s', Steps L code p s tc s' ∧ srcOf s' = σ' ∧ s'.sp = s.sp := h

/-- a whole function body (no enclosing loop: every `break` / `continue` is inside a loop of the body) from its
    first line: a terminating run of the executable machine -/
theorem struct_program_correct (L : Layout) (st : SStmt) (fuel : Nat) (σ : SrcSt) (out : Out)
    (hsem : sem L fuel σ st = some out) (hfr : SInFragment st = true) (hsc : Scoped false st = true)
    (s : Cpu) (hm : srcOf s = σ) :
    ∃ s' n, runG L (gen none {} st).1 (gen none {} st).1.length n 0 s = some s' ∧ srcOf s' = out.2 ∧ s'.sp = s.sp := by
  obtain ⟨e, σ'⟩ := out
  obtain rfl : e = .norm := scoped_norm L fuel σ st _ hsem hsc
  obtain ⟨s', hs, hmem, _, hsp⟩ :=
    struct_correct_in_context L st fuel σ _ hsem hfr none {} [] [] s 0 0 hsc (fun _ h => nomatch h) hm trivial trivial
  simp only [List.nil_append, List.append_nil, List.length_nil, Nat.zero_add] at hs
  obtain ⟨n, hn⟩ := hs.to_runG rfl
  exact ⟨s', n, hn, hmem, hsp⟩

/-- the same against the plain reading of the source (`semPure`: no write to the compiler's own cells anywhere): when
    the program's cells are neither `cctmp` nor in the stack page, and `cctmp` is not in the stack page (`NoTmp`), the
    run ends with X, Y and every memory cell except `cctmp` and the stack page as the source prescribes -/
theorem struct_program_correct_pure (L : Layout) (st : SStmt) (fuel : Nat) (σ : SrcSt) (out : Out)
    (hsem : semPure L fuel σ st = some out) (hfr : SInFragment st = true) (hsc : Scoped false st = true)
    (hn : NoTmp L st.names) (s : Cpu) (hm : srcOf s = σ) :
    ∃ s' n, runG L (gen none {} st).1 (gen none {} st).1.length n 0 s = some s' ∧ EqOff L (srcOf s') out.2 ∧ s'.sp = s.sp := by
  have h := sem_pure L (EqOff.refl L σ) fuel st hn
  rw [hsem] at h
  match hs : sem L fuel σ st, h with
  | some o, h =>
    obtain ⟨s', n, hr, hsrc, hsp⟩ := struct_program_correct L st fuel σ o hs hfr hsc s hm
    exact ⟨s', n, hr, hsrc ▸ h.2, hsp⟩

/-- every label defined by generated code is new: allocated between the generator states before and
    after — so no label of a statement's code occurs in code generated earlier -/
theorem fresh_labels (st : SStmt) (lp : LoopCtx) (g : GState) :
    ∀ l ∈ labels (gen lp g st).1, g.ctr l.kind.ctr < l.idx ∧ l.idx ≤ (gen lp g st).2.ctr l.kind.ctr :=
  (gen_tidy st lp g).fresh.2

theorem zp_index_no_wrap (a : Word) (i : Byte) (h : a.toNat + i.toNat < 256) :
    ((a.truncate 8 + i : Byte).zeroExtend 16) = a + i.zeroExtend 16 := by
  apply BitVec.eq_of_toNat_eq
  have hi := i.isLt
  simp [BitVec.toNat_add, BitVec.toNat_setWidth]
  omega

/-- indexed addressing in the zero page: as long as base + subscript stays below $100 the address the 6502
    computes for `zp,X` (which wraps inside the zero page) is the plain sum the model uses -/
theorem indexed_zero_page_no_wrap (s : Cpu) (a : Word) (h : a.toNat + s.x.toNat < 256) :
    s.ea (.memX a true) = s.ea (.memX a false) := congrArg some (zp_index_no_wrap a s.x h)

theorem indexed_zero_page_no_wrap_y (s : Cpu) (a : Word) (h : a.toNat + s.y.toNat < 256) :
    s.ea (.memY a true) = s.ea (.memY a false) := congrArg some (zp_index_no_wrap a s.y h)

/-! non-vacuity: a program using every production of the fragment -/
def demo : List FStmt :=
  [.asg "a" (.const 5), .asg "b" (.var "a"), .bin "c" .add (.var "a") (.var "b"), .bin "c" .add (.const 3) (.var "b"),
   .bin "a" .sub (.const 3) (.var "b"), .bin "d" .band (.const 7) (.var "c"), .opasg "a" .bxor (.var "d"),
   .opasg "b" .sub (.const 1), .inc "a", .dec "d", .bin "d" .bor (.var "a") (.const 128)]
example : demo.all InFragment = true := by decide
example : genText (.bin "c" .add (.const 3) (.var "b")) = [(.LDA, "b"), (.CLC, ""), (.ADC, "#3"), (.STA, "c")] := by decide

/-! non-vacuity of stages 2 and 3: a program with every production; source loops whose meaning is defined -/
def va (n : String) : RA := .of (.var n)
def ca (n : Nat) : RA := .of (.const (BitVec.ofNat 8 n))
def sdemo : SStmt :=
  .seq (.flat (.asg (.var "a") (ca 3)))
  (.seq (.for (.asg .x (ca 0)) (.cmp .lt .x (ca 5)) (.inc .x)
          (.ifElse (.and (.cmp .gt (va "a") .x) (.not (.truth .y))) (.flat (.opasg (.var "c") .add .x)) (.flat (.dec .y))))
  (.seq (.while (.truth (.var "a")) (.seq (.flat (.dec (.var "a"))) (.ifThen (.or (.cmp .eq (ca 0) (va "a")) (.nottruth .x)) .skip)))
        (.doWhile (.flat (.bin .y .sub .y (va "d"))) (.cmp .le .y (ca 9)))))
def el (t : String) (i : Ix) : RA := .of (.el t i)
/-- stage 4: elements as operands, targets, loop counters and in conditions -/
def ademo : SStmt :=
  .seq (.flat (.asg (.el "t" .x) (el "u" .y)))
  (.seq (.flat (.bin (.el "t" (.k 2)) .add (el "t" .x) .x))
  (.seq (.flat (.inc (.el "t" .y)))
  (.seq (.while (.truth (.el "t" .x)) (.flat (.dec (.el "t" .x))))
        (.ifElse (.cmp .lt .x (el "u" .x)) (.flat (.asg (.el "u" .x) .y)) (.flat (.asg .y (el "t" .y)))))))
example : SInFragment ademo = true := by decide
example : rgenText (fun _ => true) (.bin (.el "t" (.k 2)) .add (el "t" .x) .x) =
    [(.LDA, "t,X"), (.CLC, ""), (.STX, "cctmp"), (.ADC, "cctmp"), (.STA, "t+2")] := by decide
example : rgenText (fun _ => true) (.asg (.el "t" .x) .y) = [(.STY, "t,X")] := by decide
example : rgenText (fun _ => false) (.asg (.el "t" .x) .y) = [(.TYA, ""), (.STA, "t,X")] := by decide
example : rgenText (fun _ => true) (.inc (.el "t" .y)) = [(.LDA, "t,Y"), (.CLC, ""), (.ADC, "#1"), (.STA, "t,Y")] := by decide
example : ((gen none {} ademo).1).length = 26 := by decide
example : SInFragment sdemo = true := by decide
example : ((gen none {} sdemo).1.map GLine.text).length = 44 := by decide
example (L : Layout) (σ : SrcSt) (h : σ.x = 1) :
    sem L 4 σ (.doWhile (.flat (.dec .x)) (.truth .x)) = some (.norm, { σ with x := 0 }) := by
  simp [sem, rspec, evalCond_truth, wr, rval, LV.ra, h]
example (L : Layout) (σ : SrcSt) : ∃ o, sem L 3 σ (.ifElse (.truth .y) (.flat (.inc (.var "b"))) (.flat (.dec (.var "b")))) = some o := by
  simp only [sem]; split <;> exact ⟨_, rfl⟩

/-- stage 5: `break` and `continue` in every kind of loop -/
def bdemo : SStmt :=
  .seq (.while (.truth (.var "a")) (.seq (.flat (.dec (.var "a"))) (.ifThen (.cmp .eq (va "a") (ca 3)) .brk)))
  (.seq (.doWhile (.seq (.flat (.inc .x)) (.ifElse (.cmp .lt .x (ca 5)) .cont (.flat (.inc (.var "c"))))) (.cmp .ne .x (ca 9)))
        (.for (.asg .y (ca 0)) (.cmp .lt .y (ca 8)) (.inc .y) (.seq (.ifThen (.truth (.var "b")) .cont) (.ifThen (.cmp .eq .y (ca 6)) .brk))))
example : SInFragment bdemo = true ∧ Scoped false bdemo = true := by decide
/-- the `.dowhilecondition` label exists exactly when the body has a `continue` of its own -/
example : (labels (gen none {} (.doWhile (.ifThen (.truth .x) .cont) (.truth .y))).1).map Lbl.text
    = [".dowhile1", ".ifend1", ".dowhilecondition1", ".dowhileend1"] := by decide +kernel
example : (labels (gen none {} (.doWhile (.ifThen (.truth .x) .brk) (.truth .y))).1).map Lbl.text
    = [".dowhile1", ".ifend1", ".dowhileend1"] := by decide +kernel
/-- a loop left by `break` -/
example (L : Layout) (σ : SrcSt) :
    sem L 5 σ (.while (.truth .x) (.seq (.flat (.asg .y (ca 7))) .brk)) =
      some (.norm, if σ.x != 0 then { σ with y := 7 } else σ) := by
  by_cases h : σ.x = 0
  · simp [sem, evalCond_truth, rval, LV.ra, h]
  · have h' : ¬ σ.x = 0#8 := h
    simp [sem, rspec, evalCond_truth, wr, rval, LV.ra, val, ca, h']

example : rgenText (fun _ => true) (.chain (.var "v") (.of (.const 3)) .add (.of (.var "a")) [(.sub, .x), (.bor, .of (.el "t" .y))]) =
    [(.LDA, "a"), (.CLC, ""), (.ADC, "#3"), (.SEC, ""), (.STX, "cctmp"), (.SBC, "cctmp"), (.ORA, "t,Y"), (.STA, "v")] := by decide
example : RInFragment (.chain (.var "v") (.of (.var "a")) .add (.of (.var "b")) [(.sub, .of (.var "c"))]) = true := by decide
/-! non-vacuity of stage 8: `v = a − ((b − (c + 1)) − t[X])` -/
example : rgenText (fun _ => true) (.lin (.var "v") (.right (.of (.var "a")) .sub (.left (.right (.of (.var "b")) .sub
      (.pair (.of (.var "c")) .add (.of (.const 1)))) .sub (.of (.el "t" .x))))) =
    [(.LDA, "c"), (.CLC, ""), (.ADC, "#1"), (.STA, "cctmp"), (.LDA, "b"), (.SEC, ""), (.SBC, "cctmp"), (.SEC, ""), (.SBC, "t,X"),
     (.STA, "cctmp"), (.LDA, "a"), (.SEC, ""), (.SBC, "cctmp"), (.STA, "v")] := by decide +kernel
example (L : Layout) (σ : SrcSt) : linPure L σ (.right (.of (.const 10)) .sub (.pair (.of (.const 3)) .add (.of (.const 4)))) = 3 := by
  simp [linPure, rval, val, BOp.apply]

/-- `lv = e` for every expression tree: when the generator goes through with it (`e.ok`), the code runs to its end
    from every machine state, leaves the state `exprSpec` describes (every scratch write, push and pull included)
    and the stack pointer where it was; otherwise there is no code and nothing changes -/
theorem tree_code_correct (L : Layout) (s : Cpu) (fl : Option FRef) (v : LV) (e : GExpr) (hinv : FlagsInv L fl s) :
    ∃ s', execSeq s (exprCode Opd.none (opd L) v e) = some s' ∧ srcOf s' = exprSpec L (srcOf s) v e ∧ s'.sp = s.sp ∧
      FlagsInv L (if e.ok then some v else fl) s' :=
  rflat_correct L (fun _ => false) (.expr v e) fl s hinv

/-- the spill strategy never loses a live value: for every accepted tree, `exprSpec` is the assignment of the plain
    value of the tree, outside the compiler's own cells (`cctmp`, stack page) -/
theorem tree_value_is_plain (L : Layout) (σ : SrcSt) (v : LV) (e : GExpr) (hok : e.ok = true)
    (hn : NoTmp L (v.names ++ gexprNames e)) : EqOff L (exprSpec L σ v e) (wr L σ v (pureE L σ e)) := by
  have := rspec_pure L (EqOff.refl L σ) (.expr v e) hn
  simpa [rspec, pureSpec, hok] using this

set_option linter.unusedVariables false in  -- `hne` is not needed: for an atom both sides are false
/-- what the generator decides does not depend on how operands are written -/
theorem tree_decisions_independent_of_rendering (L : Layout) (e : GExpr) (hne : ∀ a, e ≠ .atom a) :
    e.ok = true ↔ ∃ c st', genE Opd.none (opd L) {} e = some (c, .acc, st') :=
  e.ok_iff Opd.none (opd L)

/-! non-vacuity of stage 10: `v = (a + b) − (c & d)` spills; a tree the generator gives up on -/
example : rgenText (fun _ => true) (.expr (.var "v") (.bin (.bin (.atom (.of (.var "a"))) .add (.atom (.of (.var "b")))) .sub
      (.bin (.atom (.of (.var "c"))) .band (.atom (.of (.var "d")))))) =
    [(.LDA, "a"), (.CLC, ""), (.ADC, "b"), (.PHA, ""), (.LDA, "c"), (.AND, "d"), (.STA, "cctmp"), (.PLA, ""), (.SEC, ""),
     (.SBC, "cctmp"), (.STA, "v")] := by decide +kernel
example : (GExpr.bin (.bin (.atom (.of (.var "a"))) .add (.atom (.of (.var "b")))) .sub
      (.bin (.atom (.of (.var "c"))) .band (.atom (.of (.var "d"))))).ok = true := by decide
example : (GExpr.bin (.bin (.atom .x) .add (.atom (.of (.var "b")))) .sub (.bin (.bin (.atom (.of (.var "a"))) .sub (.atom (.of (.var "b")))) .sub
      (.bin (.atom (.of (.var "c"))) .band (.atom .y)))).ok = false := by decide
example (L : Layout) (σ : SrcSt) : pureE L σ (.bin (.bin (.atom (.of (.const 9))) .add (.atom (.of (.const 1)))) .sub
      (.bin (.atom (.of (.const 7))) .band (.atom (.of (.const 12))))) = 6 := by
  simp [pureE, rval, val, BOp.apply]

/-! non-vacuity of stage 11: `v = (a >> 1) + (c << 2)` — shift, spill, shift into the scratch cell -/
example : rgenText (fun _ => true) (.expr (.var "v") (.bin (.sh (.atom (.of (.var "a"))) false 1) .add (.sh (.atom (.of (.var "c"))) true 2))) =
    [(.LDA, "a"), (.LSR, ""), (.PHA, ""), (.LDA, "c"), (.ASL, ""), (.ASL, ""), (.STA, "cctmp"), (.PLA, ""), (.CLC, ""),
     (.ADC, "cctmp"), (.STA, "v")] := by decide
example (L : Layout) (σ : SrcSt) : pureE L σ (.bin (.sh (.atom (.of (.const 9))) false 1) .add (.sh (.atom (.of (.const 3))) true 2)) = 16 := by
  simp [pureE, rval, val, BOp.apply, shVal]

/-! non-vacuity of stage 12: `if (((a & 3) + c) < b) d++;` and `while (a >> 1) a--;` -/
example : (gen none {} (.ifThen (.cmpE .lt (.bin (.bin (.atom (.of (.var "a"))) .band (.atom (.of (.const 3)))) .add (.atom (.of (.var "c"))))
      (.var "b") true) (.flat (.inc (.var "d"))))).1.map GLine.text =
    ["LDA:61", "AND:2333", "CLC:-", "ADC:63", "CMP:62", "BCS:2e6966656e6431", "INC:64", "L:2e6966656e6431"] := by decide +kernel
example : SInFragment (.ifThen (.cmpE .lt (.bin (.bin (.atom (.of (.var "a"))) .band (.atom (.of (.const 3)))) .add (.atom (.of (.var "c"))))
      (.var "b") true) (.flat (.inc (.var "d")))) = true := by decide
example : (gen none {} (.while (.truthE (.sh (.atom (.of (.var "a"))) false 1)) (.flat (.dec (.var "a"))))).1.map GLine.text =
    ["L:2e7768696c6531", "LDA:61", "LSR:-", "CMP:2330", "BEQ:2e7768696c65656e6431", "DEC:61", "JMP:2e7768696c6531",
     "L:2e7768696c65656e6431"] := by decide +kernel
/-! non-vacuity of stage 13: a tree that spills as a truth test; a tree against X -/
example : (gen none {} (.ifThen (.truthE (.bin (.bin (.atom (.of (.var "a"))) .add (.atom (.of (.var "b")))) .sub
      (.bin (.atom (.of (.var "c"))) .band (.atom (.of (.var "d")))))) (.flat (.inc (.var "d"))))).1.map GLine.text =
    ["LDA:61", "CLC:-", "ADC:62", "PHA:-", "LDA:63", "AND:64", "STA:6363746d70", "PLA:-", "SEC:-", "SBC:6363746d70",
     "BEQ:2e6966656e6431", "INC:64", "L:2e6966656e6431"] := by decide +kernel
example : (gen none {} (.while (.cmpR .ne (.bin (.atom (.of (.var "a"))) .add (.atom (.of (.const 1)))) false true)
      (.flat (.inc (.var "a"))))).1.map GLine.text =
    ["L:2e7768696c6531", "LDA:61", "CLC:-", "ADC:2331", "STA:6363746d70", "CPX:6363746d70", "BEQ:2e7768696c65656e6431",
     "INC:61", "JMP:2e7768696c6531", "L:2e7768696c65656e6431"] := by decide +kernel
example : SInFragment (.while (.cmpR .ne (.bin (.atom (.of (.var "a"))) .add (.atom (.of (.const 1)))) false true)
      (.flat (.inc (.var "a")))) = true := by decide
/-- the condition `(a + 1) != X` leaves the tree's value in the scratch cell -/
example (L : Layout) (m : SrcSt) : condEff L m (.cmpR .ne (.bin (.atom (.of (.var "a"))) .add (.atom (.of (.const 1)))) false true)
    = setTmp L m (m.mem.read (L "a") + 1) := rfl

/-- a condition on a quiet tree (no spill, no push, no register operand through the scratch cell) leaves the state as
    it found it: the special case in which stage 13's effects are the identity -/
theorem quiet_tree_condition_no_effect (L : Layout) (m : SrcSt) (op : COp) (e : GExpr) (b : Atom) (eLeft : Bool)
    (hq : quietE {} e = true) :
    condEff L m (.cmpE op e b eLeft) = m ∧ condEff L m (.truthE e) = m := by
  have h : (treeRun L m e).2 = m := by
    unfold treeRun
    split
    · next h0 => exact evalE_quiet L e m 0 {} _ _ _ hq h0
    · rfl
  exact ⟨h, h⟩

/-- stage 14: the byte-wise (in)equality test of a 16-bit variable is the comparison of the 16-bit values; the state it
    leaves differs from the one it found only in the scratch cell -/
theorem wide_condition_is_word_compare (L : Layout) (σ : SrcSt) (ne : Bool) (s : String) (w : WA)
    (hn : NoTmp L ([Atom.var s, Atom.el s (.k 1)] ++ w.lo.names ++ w.hi.names)) :
    evalCond L σ (.wcmp ne s w) = (if ne then wordAt L σ.mem s != wval L σ w else wordAt L σ.mem s == wval L σ w) ∧
      EqOff L (condEff L σ (.wcmp ne s w)) σ :=
  condRun_eqOff L σ (.wcmp ne s w) (EqOff.refl L σ) hn

/-! non-vacuity of stage 14: `while (p != q) p++;` and `if (!p) a++;` -/
example : (gen none {} (.while (.wcmp true "p" (.wvar "q")) (incW "p"))).1.map GLine.text =
    ["L:2e7768696c6531", "LDA:70", "SEC:-", "SBC:71", "STA:6363746d70", "LDA:702b31", "SBC:712b31",
     "BNE:2e6966737461727430", "LDA:6363746d70", "BEQ:2e7768696c65656e6431", "L:2e6966737461727430", "INC:70",
     "BNE:2e6966656e6432", "INC:702b31", "L:2e6966656e6432", "JMP:2e7768696c6531", "L:2e7768696c65656e6431"] := by decide +kernel
example : (gen none {} (.ifThen (.not (.wcmp true "p" (.wconst 0))) (.flat (.inc (.var "a"))))).1.map GLine.text =
    ["LDA:70", "STA:6363746d70", "LDA:702b31", "BNE:2e6966656e6431", "LDA:6363746d70", "BNE:2e6966656e6431", "INC:61",
     "L:2e6966656e6431"] := by decide +kernel

/-- an address of the zero page is not in the stack page -/
theorem not_inStack_of_lt (a : Word) (h : a.toNat < 256) : ¬ InStack a := by
  rintro ⟨b, rfl⟩
  have : (Cpu.stackAddr b).toNat ≥ 256 := by
    unfold Cpu.stackAddr
    rw [BitVec.toNat_or]
    exact Nat.left_le_or
  omega
-- a layout that meets the hypotheses of `tree_value_is_plain` (and of `struct_program_correct_pure`): the program's
-- cells and `cctmp` in the zero page, below the stack page
example : NoTmp (fun n => if n == "cctmp" then 0x80 else if n == "a" then 0x81 else 0x82) [.var "a", .var "v"] := by
  refine ⟨not_inStack_of_lt _ (by decide), fun x hx => ?_⟩
  simp only [List.mem_cons, List.not_mem_nil, or_false] at hx
  rcases hx with rfl | rfl <;> exact fun h => h.elim (by decide) (not_inStack_of_lt _ (by decide))

end CV.C01
