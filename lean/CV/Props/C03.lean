/-
  Property C03 — conditional branches always reach; long-branch repair preserves control flow.
  Model: CV.Branch (port of AssemblyCode::check_branches). Specification: when a branch is taken (`Cpu.taken`, CV.Mos).
  "No far branch" is read in bytes: the address of a line is the prefix sum of the sizes (`sizeBytes`; the link to
  true encodings is C04's `sizeBytes_eq_asmLen`). The repair is read through `flow`, for each of the 8 shapes and
  every N/Z/C state.
  Not proved (checked by the exhaustive co-execution of the check instead): that `flow` agrees with CV.Exec.step
  on the spliced program; termination of the repair loop (the model takes fuel).
-/
import CV.Proofs.BranchLemmas
namespace CV.C03

theorem checkBranchesGo_ok_noFar (fuel : Nat) (code : Code) (n : Nat) (c : Code) (m : Nat)
    (h : checkBranchesGo fuel code n = BrResult.ok c m) : findFar c = Far.none := by
  induction fuel generalizing code n with
  | zero => cases h
  | succ f ih =>
    unfold checkBranchesGo at h
    split at h
    · cases h; assumption
    · cases h
    · exact ih _ _ h

/-- when `check_branches` returns (the model neither panics nor runs out of fuel), the vector it leaves has no
    checked branch further than 127 bytes from its label -/
theorem checkBranches_ok_noFar (code c : Code) (m : Nat)
    (h : checkBranches code = BrResult.ok c m) : findFar c = Far.none :=
  checkBranchesGo_ok_noFar _ _ _ _ _ h

/-- Not compiler code (the compiler never computes addresses): what dasm assigns once every line takes `Line.size`
    bytes (C04). -/
def addr (code : Code) (i : Nat) : Nat := sizeBytes (code.take i)

theorem forward_in_range (pre mid post : Code) (br : Instr) (tgt : String)
    (hno : findFar (pre ++ Line.instr br :: (mid ++ Line.label tgt :: post)) = Far.none)
    (hc : br.mn.isChecked = true) (ht : br.opd = tgt)
    (h1 : Line.label tgt ∉ pre) (h2 : Line.label tgt ∉ mid) :
    sizeBytes mid ≤ 127 := by
  obtain ⟨a, d, hm, hd⟩ := findFar_none_scan hno hc
  rw [ht, scan_below tgt mid post _ 0 0 h2 (by simp [h1])] at hm
  cases hm
  omega

/-- Backward branch: the bytes from the label up to and including the branch are at most 127, i.e. the displacement
    `addr(label) − (addr(branch)+2)` is in −127 … −2 for a 2-byte branch. -/
theorem backward_in_range (pre mid post : Code) (br : Instr) (tgt : String)
    (hno : findFar (pre ++ Line.label tgt :: (mid ++ Line.instr br :: post)) = Far.none)
    (hc : br.mn.isChecked = true) (ht : br.opd = tgt)
    (h2 : Line.label tgt ∉ mid) (h3 : Line.label tgt ∉ post) :
    sizeBytes mid + br.nbBytes ≤ 127 := by
  -- read upwards from the branch: the branch, `mid` backwards, then the label
  have split : pre ++ Line.label tgt :: (mid ++ Line.instr br :: post)
      = (pre ++ Line.label tgt :: mid) ++ Line.instr br :: post := by simp
  have upwards : Line.instr br :: (pre ++ Line.label tgt :: mid).reverse
      = (Line.instr br :: mid.reverse) ++ Line.label tgt :: pre.reverse := by simp
  rw [split] at hno
  obtain ⟨a, d, hm, hd⟩ := findFar_none_scan hno hc
  rw [ht, upwards, scan_above tgt _ _ post 0 0 (by simp [h2]) h3] at hm
  cases hm
  rw [sizeBytes_cons, sizeBytes_reverse] at hd
  simp only [Line.size] at hd
  omega

theorem addr_append (a b : Code) : addr (a ++ b) a.length = sizeBytes a := by
  simp [addr]

/-- Forward branch of 2 bytes: the 6502 displacement `addr(label) − (addr(branch)+2)` is in 0 … 127. -/
theorem forward_displacement (pre mid post : Code) (br : Instr) (tgt : String)
    (hno : findFar (pre ++ Line.instr br :: (mid ++ Line.label tgt :: post)) = Far.none)
    (hc : br.mn.isChecked = true) (ht : br.opd = tgt) (hb : br.nbBytes = 2)
    (h1 : Line.label tgt ∉ pre) (h2 : Line.label tgt ∉ mid) :
    let code := pre ++ Line.instr br :: (mid ++ Line.label tgt :: post)
    let disp : Int := (addr code (pre.length + 1 + mid.length) : Int) - ((addr code pre.length : Int) + 2)
    0 ≤ disp ∧ disp ≤ 127 := by
  have h := forward_in_range pre mid post br tgt hno hc ht h1 h2
  have e1 := addr_append pre (Line.instr br :: (mid ++ Line.label tgt :: post))
  have e2 : addr (pre ++ Line.instr br :: (mid ++ Line.label tgt :: post)) (pre.length + 1 + mid.length)
      = sizeBytes pre + ((Line.instr br).size + sizeBytes mid) := by
    have := addr_append (pre ++ Line.instr br :: mid) (Line.label tgt :: post)
    rwa [List.append_assoc, List.cons_append, List.length_append, List.length_cons, ← Nat.add_assoc,
      Nat.add_right_comm, sizeBytes_append, sizeBytes_cons] at this
  simp only [e1, e2, Line.size, hb]
  omega

def skipTo (l : String) : List Line → Option (List Line)
  | [] => none
  | x :: r => if x = Line.label l then some r else skipTo l r

/-- Control-flow reading of a straight piece of branches, `JMP`s and labels for a fixed flag state: `some l` = control
    leaves to the label `l`, not defined in the rest of the piece; `none` = it falls through the end. Jumps inside the
    piece go forward only (as in every repair sequence). Specification, no counterpart in the compiler: a branch is
    taken by `Cpu.taken` of the MOS semantics; the number is fuel. -/
def flow (f : Flags) : Nat → List Line → Option String
  | 0, _ => none
  | _ + 1, [] => none
  | n + 1, Line.instr i :: r =>
    if i.mn == Mn.JMP then
      (match skipTo i.opd r with | some r' => flow f n r' | none => some i.opd)
    else match Cpu.taken f i.mn with
      | some true => (match skipTo i.opd r with | some r' => flow f n r' | none => some i.opd)
      | _ => flow f n r
  | n + 1, _ :: r => flow f n r

/-- where the original branch (or pair) sends control -/
def origFlow (f : Flags) (mn : Mn) (pair : Bool) (tgt : String) : Option String :=
  if pair then flow f 4 [mkBranch mn tgt, mkBranch Mn.BEQ tgt] else flow f 4 [mkBranch mn tgt]

section
variable {f : Flags} {n m : Nat} {mn mn₂ inv : Mn} {b c : Bool} {tgt fix fixup : String}

theorem flow_nil : flow f n [] = none := by cases n <;> rfl

theorem ne_jmp (h : Cpu.taken f mn = some b) : (mn == Mn.JMP) = false := by
  cases hm : mn == Mn.JMP
  · rfl
  · rw [eq_of_beq hm] at h; cases h

/-- an inverted branch around a jump goes where the branch goes -/
theorem flow_single (hm : Cpu.taken f mn = some b) (hi : Cpu.taken f inv = some (!b))
    (h : tgt ≠ fix) :
    flow f (n + 3) [mkBranch inv fix, mkJmp tgt, Line.label fix] = flow f (m + 1) [mkBranch mn tgt] := by
  cases b <;> simp [flow, flow_nil, skipTo, mkBranch, mkJmp, ne_jmp hm, ne_jmp hi, hm, hi, h.symm]

/-- the same with a second branch `mn₂` to the same target in front (the `BMI|BCC ; BEQ` pair) -/
theorem flow_pair (hm : Cpu.taken f mn = some b) (hi : Cpu.taken f inv = some (!b))
    (hz : Cpu.taken f mn₂ = some c) (h1 : tgt ≠ fix) (h3 : fix ≠ fixup) :
    flow f (n + 5) [mkBranch mn₂ fixup, mkBranch inv fix, Line.label fixup, mkJmp tgt, Line.label fix]
      = flow f (m + 2) [mkBranch mn tgt, mkBranch mn₂ tgt] := by
  cases b <;> cases c <;>
    simp [flow, flow_nil, skipTo, mkBranch, mkJmp, ne_jmp hm, ne_jmp hi, ne_jmp hz, hm, hi, hz, h1.symm, h3.symm]

end

set_option linter.unusedVariables false in -- `h2` is not needed: in the pair shape `JMP tgt` stands after `fixup:`
/-- Every repair shape × every flag state: the replacement goes to `tgt` exactly when the original did and otherwise
    falls through. Of the labels only distinctness is used. -/
theorem repair_flow (f : Flags) (mn : Mn) (pair : Bool) (tgt fix fixup : String)
    (hc : mn.isChecked = true) (hp : pair = true → (mn = Mn.BMI ∨ mn = Mn.BCC))
    (h1 : tgt ≠ fix) (h2 : tgt ≠ fixup) (h3 : fix ≠ fixup) :
    flow f 8 (repairSeqL mn pair tgt fix fixup) = origFlow f mn pair tgt := by
  cases pair with
  | false =>
    show _ = flow f 4 [mkBranch mn tgt]
    rcases checked_cases hc with rfl | rfl | rfl | rfl | rfl | rfl <;>
      exact flow_single (by rfl) (by simp [Cpu.taken]) h1
  | true =>
    show _ = flow f 4 [mkBranch mn tgt, mkBranch Mn.BEQ tgt]
    rcases hp rfl with rfl | rfl <;> exact flow_pair (by rfl) (by simp [Cpu.taken]) rfl h1 h3

/-- the two labels created by one repair differ -/
theorem fix_ne_fixup (n : Nat) : ".fix" ++ toString n ≠ ".fixup" ++ toString n := by
  intro h
  have := congrArg String.length h
  simp only [String.length_append, Nat.add_right_cancel_iff] at this
  exact absurd this (by decide)

/-! non-vacuity: a concrete function with a far forward branch and a far backward pair -/

def nops (k : Nat) : Code := List.replicate k (Line.instr { mn := Mn.NOP, nbBytes := 1 })

def demo : Code :=
  [Line.label ".top"] ++ nops 130 ++ [mkBranch Mn.BCC ".top", mkBranch Mn.BEQ ".top", mkBranch Mn.BNE ".end"]
    ++ nops 128 ++ [Line.label ".end"]

/-- `check_branches` on `demo` repairs twice (the backward pair is one repair) and leaves no far branch; `demo` had one -/
def demoRepaired : Bool :=
  match checkBranches demo with
  | BrResult.ok c n => n == 2 && decide (findFar c = Far.none) && decide (findFar demo ≠ Far.none)
  | _ => false

example : demoRepaired = true := by decide +kernel

end CV.C03
