/-
  Expression trees (stages 10, 11): the code of every tree the generator accepts runs to what `evalE` says (`genE_exec`,
  `tree_computes`). `kindE` is the part the generator (`genE`) and the specification (`evalE`) share: where either
  succeeds, where the result is, the generator state afterwards.
-/
import CV.Proofs.GenRegTemplates
namespace CV.GenReg
open CV.GenFlat

theorem loadLeft_computes (L : Layout) (s : Cpu) (t : ET) (hz : t = .acc → ZA s) :
    Computes s (loadLeft Opd.none (opd L) t) (srcOf s, leftVal L (srcOf s) s.a t) := by
  cases t with
  | atm r => exact loadA_computes L s r
  | tmp => exact loadA_computes L s (.of tmp)
  | acc => exact .nil (hz rfl)

/-- the accumulator waits on the stack while `c` runs, and the result of `c` is handed over in the scratch cell;
    `evalPlan` and `evalShift` have the shape of the conclusion -/
theorem maybeSaved_computes (L : Layout) (s : Cpu) (save : Bool) (c : List (Mn × Opd)) (f : SrcSt → SrcSt × Byte)
    (h : ∀ s₁ : Cpu, s₁.a = s.a → s₁.f = s.f → Computes s₁ c (f (srcOf s₁))) :
    Computes s ((if save then [(Mn.PHA, Opd.none)] else []) ++ c ++ (if save then [(Mn.STA, opd L tmp), (Mn.PLA, Opd.none)] else []))
      (let σ₁ := if save then pushS (srcOf s) s.a else srcOf s
       if save then pullS (setTmp L (f σ₁).1 (f σ₁).2) else f σ₁) := by
  cases save
  · simpa using h s rfl rfl
  · exact .cons (s₁ := s.push s.a) rfl
      ((h (s.push s.a) rfl rfl).seq (fun σ a => pullS (setTmp L σ a)) fun _ _ => ⟨_, rfl, rfl, rfl, rfl⟩)

theorem planCode_computes (L : Layout) (s : Cpu) (op : BOp) (p : Plan) (hz : p.left = .acc → ZA s) :
    Computes s (planCode Opd.none (opd L) op p) (evalPlan L (srcOf s) s.a op p) := by
  -- from `s₀`, the state after the spill if there is one: save, left operand, operation, hand-over
  have main : ∀ s₀ : Cpu, s₀.a = s.a → s₀.f = s.f → _ := fun s₀ ha hf =>
    maybeSaved_computes L s₀ p.save (loadLeft Opd.none (opd L) p.left ++ opCode Opd.none (opd L) op (opnd p.right2))
      (fun σ => (tmpWrite L σ op (opnd p.right2), op.apply (leftVal L σ s.a p.left) (rval L σ (opnd p.right2))))
      (fun s₁ ha₁ hf₁ => by
        rw [← ha, ← ha₁]
        exact (loadLeft_computes L s₁ p.left fun hl => (hz hl).congr (ha₁.trans ha) (hf₁.trans hf)).op L op (opnd p.right2))
  unfold planCode evalPlan
  cases hsp : p.spill
  · have h := main s rfl rfl
    simpa only [Bool.false_eq_true, ↓reduceIte, List.nil_append, List.append_assoc] using h
  · have h := Computes.cons (s := s) (mn := .STA) (o := opd L tmp) rfl (main { s with mem := s.mem.write (L "cctmp") s.a } rfl rfl)
    rw [srcOf_write_tmp] at h
    simpa only [↓reduceIte, List.cons_append, List.nil_append, List.append_assoc] using h

theorem shVal_succ (left : Bool) (k : Nat) (a : Byte) : shVal left (k + 1) a = shVal left k (shVal left 1 a) := by
  unfold shVal
  cases left
  · simp only [Bool.false_eq_true, if_false]
    rw [Nat.add_comm, BitVec.shiftRight_add]
  · simp only [if_true]
    rw [Nat.add_comm, BitVec.shiftLeft_add]

theorem shifts_computes (s : Cpu) (left : Bool) (k : Nat) (hz : ZA s) :
    Computes s (List.replicate k ((if left then Mn.ASL else Mn.LSR), Opd.none)) (srcOf s, shVal left k s.a) := by
  induction k generalizing s with
  | zero => exact ⟨s, rfl, rfl, by simp [shVal], hz⟩
  | succ k ih =>
    rw [shVal_succ]
    cases left
    · exact .cons rfl (ih _ rfl)
    · exact .cons rfl (ih _ rfl)

theorem shiftCode_computes (L : Layout) (s : Cpu) (st : ES) (t : ET) (left : Bool) (k : Nat) (hz : t = .acc → ZA s) :
    Computes s (shiftCode Opd.none (opd L) st t left k) (evalShift L (srcOf s) s.a st t left k) := by
  have h := maybeSaved_computes L s (shSave st t) (loadLeft Opd.none (opd L) t ++ List.replicate k ((if left then Mn.ASL else Mn.LSR), Opd.none))
    (fun σ => (σ, shVal left k (leftVal L σ s.a t)))
    (fun s₁ ha₁ hf₁ => by
      rw [← ha₁]
      exact (loadLeft_computes L s₁ t fun ht => (hz ht).congr ha₁ hf₁).seq (fun σ a => (σ, shVal left k a)) fun s₂ z₂ =>
        shifts_computes s₂ left k z₂)
  unfold shiftCode evalShift
  simpa only [List.append_assoc] using h

theorem order_cases (op : BOp) (l r : ET) : order op l r = (l, r) ∨ (order op l r = (r, l) ∧ op.commutes = true) := by
  unfold order
  split
  · exact .inl rfl                    -- `-`
  · next hs =>
    have hc : op.commutes = true := BOp.commutes_of_ne_sub fun e => hs (by rw [e]; rfl)
    split
    · exact .inr ⟨rfl, hc⟩            -- `l` is a constant
    · split
      · exact .inr ⟨rfl, hc⟩          -- `r` is in the accumulator
      · exact .inl rfl

theorem Plan.acc_nosave (p : Plan) (h : p.left = .acc) : p.save = false := by
  simp [Plan.save, h]

theorem plan_some {st : ES} {l : ET} {op : BOp} {rt : ET} {p : Plan} (h : plan st l op rt = some p) : p = mkPlan st l op rt := by
  unfold plan at h
  split at h <;> cases h
  rfl

theorem evalArithm_some (L : Layout) {σ : SrcSt} {a : Byte} {st : ES} {l : ET} {op : BOp} {rt : ET} {q : SrcSt × Byte} {t : ET} {st' : ES}
    (h : evalArithm L σ a st l op rt = some (q, t, st')) :
    ∃ p, plan st l op rt = some p ∧ q = evalPlan L σ a op p ∧ t = (if p.save then .tmp else .acc) ∧ st' = p.st' := by
  simp only [evalArithm, Option.map_eq_some_iff, Prod.mk.injEq] at h
  obtain ⟨p, hp, rfl, rfl, rfl⟩ := h
  exact ⟨p, hp, rfl, rfl, rfl⟩

/- In the functional inductions on `genE`, `evalE` and `kindE` the function answers in `case1` (an atom), `case3` (a
shift that is accepted) and the last case (`case8` of `genE`, `case7` of `evalE` and `kindE`: both operands accepted,
for `genE` also the operator); in all others it gives up and there is nothing to prove. -/

/-- `genE` without the code -/
def kindE : ES → GExpr → Option (ET × ES)
  | st, .atom a => some (.atm a, st)
  | st, .sh e _ k =>
    match kindE st e with
    | none => none
    | some (t, st1) => if shiftOK st1 t k then some ((if shSave st1 t then .tmp else .acc), shSt st1 t) else none
  | st, .bin l op rr =>
    match kindE st l with
    | none => none
    | some (tl, st1) =>
      match kindE st1 rr with
      | none => none
      | some (tr, st2) => (plan st2 tl op tr).map fun p => ((if p.save then .tmp else .acc), p.st')

theorem genE_kindE {α : Type} (n : α) (r : Atom → α) (e : GExpr) (st : ES) : kindE st e = (genE n r st e).map (fun x => x.2) := by
  -- `arithm` is `plan` with the code added (`hk`); where both operands are accepted, `simp` rewrites with `hk` and then
  -- with what the case knows of `arithm`, both taken from the context
  have hk : ∀ st l op rt, (plan st l op rt).map (fun p => ((if p.save then ET.tmp else ET.acc), p.st')) =
      (arithm n r st l op rt).map (fun x => x.2) := fun st l op rt => by rw [arithm, Option.map_map]; rfl
  fun_induction genE n r st e <;>
    simp only [kindE, Option.map_some, Option.map_none, if_true, Bool.false_eq_true, if_false, *]

theorem evalE_kindE (L : Layout) (e : GExpr) (σ : SrcSt) (a : Byte) (st : ES) : kindE st e = (evalE L σ a st e).map (fun x => x.2) := by
  fun_induction evalE L σ a st e <;>
    simp only [kindE, Option.map_some, Option.map_none, if_true, Bool.false_eq_true, if_false, *]
  rw [evalArithm, Option.map_map]; rfl

theorem map_snd_eq_some {α β : Type} {o : Option (α × β)} {k : β} : o.map (fun x => x.2) = some k ↔ ∃ x, o = some (x, k) := by
  rcases o with _ | ⟨x, k'⟩
  · simp
  · exact ⟨fun h => ⟨x, by rw [← Option.some.inj h]⟩, fun ⟨_, h⟩ => by rw [h]; rfl⟩

theorem genE_some_iff {α : Type} (n : α) (r : Atom → α) {st : ES} {e : GExpr} {t : ET} {st' : ES} :
    (∃ c, genE n r st e = some (c, t, st')) ↔ kindE st e = some (t, st') := by
  rw [genE_kindE n r, map_snd_eq_some]

theorem evalE_some_iff (L : Layout) (σ : SrcSt) (a : Byte) {st : ES} {e : GExpr} {t : ET} {st' : ES} :
    (∃ q, evalE L σ a st e = some (q, t, st')) ↔ kindE st e = some (t, st') := by
  rw [evalE_kindE L e σ a, map_snd_eq_some]

theorem genE_defined (L : Layout) {α : Type} (n : α) (r : Atom → α) {σ : SrcSt} {a : Byte} {st : ES} {e : GExpr} {q : SrcSt × Byte} {t : ET}
    {st' : ES} (h : evalE L σ a st e = some (q, t, st')) : ∃ c, genE n r st e = some (c, t, st') :=
  (genE_some_iff n r).2 ((evalE_some_iff L σ a).1 ⟨q, h⟩)

theorem kindE_acc {st : ES} {e : GExpr} {t : ET} {st' : ES} (h : kindE st e = some (t, st')) :
    (st.acc = true → st'.acc = true) ∧ (t = .acc → st'.acc = true) := by
  fun_induction kindE st e generalizing t st'
  case case1 => cases h; exact ⟨id, nofun⟩
  case case3 => cases h; exact ⟨fun _ => rfl, fun _ => rfl⟩
  case case7 =>
    obtain ⟨p, hp, h⟩ := Option.map_eq_some_iff.1 h
    cases h
    rw [plan_some hp]; exact ⟨fun _ => rfl, fun _ => rfl⟩
  all_goals cases h

theorem genE_acc {α : Type} {n : α} {r : Atom → α} {st : ES} {e : GExpr} {c : List (Mn × α)} {t : ET} {st' : ES}
    (h : genE n r st e = some (c, t, st')) :
    (st.acc = true → st'.acc = true) ∧ (t = .acc → st'.acc = true) :=
  kindE_acc ((genE_some_iff n r).1 ⟨c, h⟩)

theorem evalE_acc (L : Layout) {σ : SrcSt} {a : Byte} {st : ES} {e : GExpr} {q : SrcSt × Byte} {t : ET} {st' : ES}
    (h : evalE L σ a st e = some (q, t, st')) :
    (st.acc = true → st'.acc = true) ∧ (t = .acc → st'.acc = true) :=
  kindE_acc ((evalE_some_iff L σ a).1 ⟨q, h⟩)

/-- `e.ok` runs the generator on operands rendered as `()`; an atom has kind `.atm`, so it is `ok` on neither side -/
theorem GExpr.ok_iff {α : Type} (n : α) (r : Atom → α) (e : GExpr) : e.ok = true ↔ ∃ c st', genE n r {} e = some (c, .acc, st') := by
  have hk : e.ok = true ↔ ∃ st', kindE {} e = some (.acc, st') := by
    have h : ∀ o : Option (List (Mn × Unit) × ET × ES),
        (match o with | some (_, .acc, _) => true | _ => false) = true ↔ ∃ st', o.map (fun x => x.2) = some (ET.acc, st') := by
      intro o
      rcases o with _ | ⟨c, t, st'⟩
      · simp
      · cases t <;> simp
    cases e with
    | atom a => simp [GExpr.ok, kindE]
    | bin l op rr => rw [genE_kindE () fun _ => ()]; exact h _
    | sh e l k => rw [genE_kindE () fun _ => ()]; exact h _
  rw [hk]
  exact ⟨fun ⟨st', h⟩ => let ⟨c, hc⟩ := (genE_some_iff n r).2 h; ⟨c, st', hc⟩, fun ⟨c, st', h⟩ => ⟨st', (genE_some_iff n r).1 ⟨c, h⟩⟩⟩

/-- not a `Computes` statement like the other lemmas of the file: for an atom no code is emitted and nothing is loaded, so
    Z describes the accumulator afterwards (`ZA s'`) only if the generator has it marked as holding a value (`st'.acc`) -/
theorem genE_exec (L : Layout) : ∀ (e : GExpr) (st : ES) (c : List (Mn × Opd)) (t : ET) (st' : ES),
    genE Opd.none (opd L) st e = some (c, t, st') → ∀ s : Cpu, (st.acc = true → ZA s) →
    ∃ s' q, evalE L (srcOf s) s.a st e = some (q, t, st') ∧ execSeq s c = some s' ∧ srcOf s' = q.1 ∧ s'.a = q.2 ∧
      (st'.acc = true → ZA s') := by
  intro e st c t st' h
  fun_induction genE Opd.none (opd L) st e generalizing c t st' with
  | case1 st a => cases h; exact fun s hz => ⟨s, (srcOf s, s.a), rfl, rfl, rfl, rfl, hz⟩
  | case3 st e left k c1 t1 st1 he hok ih =>
    cases h
    intro s hz
    obtain ⟨s1, q1, ev1, ex1, hσ1, ha1, hz1⟩ := ih _ _ _ he s hz
    obtain ⟨s2, ex2, hσ2, ha2, hz2⟩ := shiftCode_computes L s1 st1 t1 left k (fun h => hz1 ((genE_acc he).2 h))
    refine ⟨s2, evalShift L q1.1 q1.2 st1 t1 left k, ?_, ?_, by rw [hσ2, hσ1, ha1], by rw [ha2, hσ1, ha1], fun _ => hz2⟩
    · simp only [evalE, ev1, hok, if_true]
    · exact execSeq_trans ex1 ex2
  | case8 st l op rr cl tl st1 hl cr tr st2 hr ca t3 st3 ha ihl ihr =>
    cases h
    simp only [arithm, Option.map_eq_some_iff, Prod.mk.injEq] at ha
    obtain ⟨p, hp, rfl, rfl, rfl⟩ := ha
    intro s hz
    obtain ⟨s1, q1, ev1, ex1, hσ1, ha1, hz1⟩ := ihl _ _ _ hl s hz
    obtain ⟨s2, q2, ev2, ex2, hσ2, ha2, hz2⟩ := ihr _ _ _ hr s1 hz1
    -- the left operand of the plan is in the accumulator only if one of the two results is, and then Z describes it
    have hzp : p.left = .acc → ZA s2 := fun hle => by
      rw [plan_some hp, show (mkPlan st2 tl op tr).left = (order op tl tr).1 from rfl] at hle
      rcases order_cases op tl tr with e | ⟨e, _⟩ <;> rw [e] at hle
      · exact hz2 ((genE_acc hr).1 ((genE_acc hl).2 hle))
      · exact hz2 ((genE_acc hr).2 hle)
    obtain ⟨s3, ex3, hσ3, ha3, hz3⟩ := planCode_computes L s2 op p hzp
    refine ⟨s3, evalPlan L q2.1 q2.2 op p, ?_, ?_, by rw [hσ3, hσ2, ha2], by rw [ha3, hσ2, ha2], fun _ => hz3⟩
    · rw [hσ1, ha1] at ev2
      simp only [evalE, ev1, ev2, evalArithm, hp, Option.map_some]
    · exact execSeq_trans (execSeq_trans ex1 ex2) ex3
  | _ => cases h

theorem evalPlan_sp (L : Layout) (σ : SrcSt) (a : Byte) (op : BOp) (p : Plan) : (evalPlan L σ a op p).1.sp = σ.sp := by
  unfold evalPlan
  cases p.save <;> cases p.spill <;> simp [pullS, setTmp, pushS, BitVec.sub_add_cancel]

theorem evalShift_sp (L : Layout) (σ : SrcSt) (a : Byte) (st : ES) (t : ET) (left : Bool) (k : Nat) :
    (evalShift L σ a st t left k).1.sp = σ.sp := by
  unfold evalShift
  cases shSave st t <;> simp [pullS, setTmp, pushS, BitVec.sub_add_cancel]

theorem evalE_sp (L : Layout) {σ : SrcSt} {a : Byte} {st : ES} {e : GExpr} {q : SrcSt × Byte} {t : ET} {st' : ES}
    (h : evalE L σ a st e = some (q, t, st')) : q.1.sp = σ.sp := by
  fun_induction evalE L σ a st e generalizing q t st' with
  | case1 => cases h; rfl
  | case3 σ a st e left k σ1 a1 t1 st1 he hok ih => cases h; exact (evalShift_sp L _ _ st1 t1 left k).trans (ih he)
  | case7 σ a st l op rr σ1 a1 tl st1 hl σ2 a2 tr st2 hr ihl ihr =>
    obtain ⟨p, -, rfl, -, -⟩ := evalArithm_some L h
    exact (evalPlan_sp L _ _ op p).trans ((ihr hr).trans (ihl hl))
  | _ => cases h

theorem evalPlan_acc_irrelevant (L : Layout) (σ : SrcSt) (a a' : Byte) (op : BOp) (st : ES) (l rt : ET) (p : Plan)
    (hp : plan st l op rt = some p) (hlr : (l = .acc ∨ rt = .acc) → st.acc = true) (h : st.acc = true → a = a') :
    evalPlan L σ a op p = evalPlan L σ a' op p := by
  by_cases hacc : st.acc = true
  · rw [h hacc]
  · -- neither operand is in the accumulator: nothing is spilled or saved, and the left operand is read elsewhere
    have ho : (order op l rt).1 ≠ .acc ∧ (order op l rt).2 ≠ .acc := by
      rcases order_cases op l rt with e | ⟨e, _⟩ <;> rw [e]
      · exact ⟨fun e => hacc (hlr (.inl e)), fun e => hacc (hlr (.inr e))⟩
      · exact ⟨fun e => hacc (hlr (.inr e)), fun e => hacc (hlr (.inl e))⟩
    have hs : ((order op l rt).2 == ET.acc) = false := beq_false_of_ne ho.2
    rw [plan_some hp]
    simp only [evalPlan, mkPlan, Plan.save, hs, Bool.not_eq_true _ ▸ hacc, Bool.false_and, Bool.false_eq_true, if_false]
    cases h1 : (order op l rt).1 with
    | acc => exact absurd h1 ho.1
    | _ => rfl

theorem evalE_acc_irrelevant (L : Layout) {σ : SrcSt} {a : Byte} {st : ES} {e : GExpr} {σ' : SrcSt} {b : Byte} {t : ET} {st' : ES}
    (a' : Byte) (h : evalE L σ a st e = some ((σ', b), t, st')) (haa : st.acc = true → a = a') :
    ∃ b', evalE L σ a' st e = some ((σ', b'), t, st') ∧ (st'.acc = true → b = b') := by
  fun_induction evalE L σ a st e generalizing a' σ' b t st' with
  | case1 => cases h; exact ⟨a', rfl, haa⟩
  | case3 σ a st e left k σ1 a1 t1 st1 he hok ih =>
    simp only [Option.some.injEq, Prod.mk.injEq] at h
    obtain ⟨hq, rfl, rfl⟩ := h
    obtain ⟨a1', he', ha1⟩ := ih a' he haa
    have heq : evalShift L σ1 a1 st1 t1 left k = evalShift L σ1 a1' st1 t1 left k := by
      by_cases hacc : st1.acc = true
      · rw [ha1 hacc]
      · -- the accumulator holds nothing: it is not saved, and the operand is read elsewhere
        have hsv : shSave st1 t1 = false := by simp [shSave, Bool.not_eq_true _ ▸ hacc]
        cases t1 with
        | acc => exact absurd ((evalE_acc L he).2 rfl) hacc
        | _ => simp only [evalShift, hsv, Bool.false_eq_true, if_false, leftVal]
    exact ⟨(evalShift L σ1 a1' st1 t1 left k).2, by simp only [evalE, he', hok, if_true, ← heq, hq], fun _ => by rw [← heq, hq]⟩
  | case7 σ a st l op rr σ1 a1 tl st1 hl σ2 a2 tr st2 hr ihl ihr =>
    obtain ⟨p, hp, hq, rfl, rfl⟩ := evalArithm_some L h
    obtain ⟨a1', hl', ha1⟩ := ihl a' hl haa
    obtain ⟨a2', hr', ha2⟩ := ihr a1' hr ha1
    have hpe := evalPlan_acc_irrelevant L σ2 a2 a2' op st2 tl tr p hp
      (fun h => h.elim (fun h => (evalE_acc L hr).1 ((evalE_acc L hl).2 h)) (evalE_acc L hr).2) ha2
    refine ⟨(evalPlan L σ2 a2' op p).2, ?_, fun _ => by rw [← hpe]; exact (congrArg Prod.snd hq)⟩
    simp only [evalE, hl', hr', evalArithm, hp, Option.map_some, ← hpe, ← hq]
  | _ => cases h

/-- accumulator 0: what it holds at the start does not matter (`evalE_acc_irrelevant`) -/
theorem tree_computes (L : Layout) (e : GExpr) (c : List (Mn × Opd)) (st' : ES)
    (hg : genE Opd.none (opd L) {} e = some (c, .acc, st')) (s : Cpu) :
    ∃ q, evalE L (srcOf s) 0 {} e = some (q, .acc, st') ∧ Computes s c q ∧ q.1.sp = s.sp := by
  obtain ⟨s1, ⟨σq, aq⟩, ev, ex, hm, ha, hz⟩ := genE_exec L e {} c .acc st' hg s (by intro h; cases h)
  have hacc : st'.acc = true := (genE_acc hg).2 rfl
  obtain ⟨a0, h0, haa⟩ := evalE_acc_irrelevant L 0 ev nofun
  exact ⟨(σq, a0), h0, ⟨s1, ex, hm, ha.trans (haa hacc), hz hacc⟩, evalE_sp L ev⟩

theorem exprCode_performs (L : Layout) (s : Cpu) (fl : Option FRef) (v : LV) (e : GExpr) (hinv : FlagsInv L fl s) :
    Performs L s (exprCode Opd.none (opd L) v e) (exprSpec L (srcOf s) v e) (if e.ok then some v else fl) := by
  by_cases hok : e.ok = true
  · obtain ⟨c, st', hg⟩ := (e.ok_iff Opd.none (opd L)).1 hok
    obtain ⟨⟨σq, aq⟩, h0, hc, -⟩ := tree_computes L e c st' hg s
    have h := hc.assign L v
    simpa only [exprCode, hg, exprSpec, hok, if_true, h0] using h
  · have hcode : exprCode Opd.none (opd L) v e = [] := by
      unfold exprCode
      split
      · next c st' h => exact absurd ((e.ok_iff Opd.none (opd L)).2 ⟨c, st', h⟩) hok
      · rfl
    have hok' : e.ok = false := by simpa using hok
    exact ⟨s, by rw [hcode]; rfl, by simp [exprSpec, hok'], by simpa [hok'] using hinv⟩

theorem evalE_quiet (L : Layout) : ∀ (e : GExpr) (σ : SrcSt) (a : Byte) (st : ES) (q : SrcSt × Byte) (t : ET) (st' : ES),
    quietE st e = true → evalE L σ a st e = some (q, t, st') → q.1 = σ := by
  intro e σ a st q t st' hq h
  fun_induction evalE L σ a st e generalizing q t st' with
  | case1 => cases h; rfl
  | case3 σ a st e left k σ1 a1 t1 st1 he hok ih =>
    cases h
    obtain ⟨c1, hg⟩ := genE_defined L () (fun _ => ()) he
    simp only [quietE, hg, Bool.and_eq_true, Bool.not_eq_true'] at hq
    simp only [evalShift, hq.2, Bool.false_eq_true, if_false]
    exact ih _ _ _ hq.1 he
  | case7 σ a st l op rr σ1 a1 tl st1 hl σ2 a2 tr st2 hr ihl ihr =>
    obtain ⟨p, hp, rfl, -, -⟩ := evalArithm_some L h
    obtain ⟨cl, hgl⟩ := genE_defined L () (fun _ => ()) hl
    obtain ⟨cr, hgr⟩ := genE_defined L () (fun _ => ()) hr
    simp only [quietE, hgl, hgr, hp, Bool.and_eq_true, Bool.not_eq_true'] at hq
    obtain ⟨hql, hqr, ⟨hsp, hsv⟩, hreg⟩ := hq
    simp only [evalPlan, hsp, hsv, Bool.false_eq_true, if_false, tmpWrite, hreg, Bool.false_and]
    exact (ihr _ _ _ hqr hr).trans (ihl _ _ _ hql hl)
  | _ => cases h

end CV.GenReg
