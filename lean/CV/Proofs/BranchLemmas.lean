/-
  What C03, C04 and C16 share about `check_branches`: sums of line sizes, the label search `scan` with the label's
  place known, and `findFarFrom` one line at a time (`FarStep`) with what its outcomes say of the branches walked over.
-/
import CV.Branch
namespace CV

theorem sizeBytes_nil : sizeBytes [] = 0 := rfl

theorem sizeBytes_cons (l : Line) (c : Code) : sizeBytes (l :: c) = l.size + sizeBytes c := by
  simp [sizeBytes]

theorem sizeBytes_append (a b : Code) : sizeBytes (a ++ b) = sizeBytes a + sizeBytes b := by
  simp [sizeBytes]

theorem sizeBytes_reverse (a : Code) : sizeBytes a.reverse = sizeBytes a := by
  simp [sizeBytes]

theorem label_size (t : String) : (Line.label t).size = 0 := rfl

theorem scanDown_found (tgt : String) (d₁ d₂ : List Line) (bb : Nat) (h : Line.label tgt ∉ d₁) :
    scanDown tgt (d₁ ++ Line.label tgt :: d₂) bb = some (bb + sizeBytes d₁) := by
  induction d₁ generalizing bb with
  | nil => rw [List.nil_append, scanDown, if_pos rfl]; rfl
  | cons d ds ih =>
    rw [List.cons_append, scanDown, if_neg (List.ne_of_not_mem_cons h).symm, ih _ (List.not_mem_of_not_mem_cons h),
      sizeBytes_cons, Nat.add_assoc]

theorem scanDown_none_iff (tgt : String) (down : List Line) (bb : Nat) :
    scanDown tgt down bb = none ↔ Line.label tgt ∉ down := by
  induction down generalizing bb with
  | nil => simp [scanDown]
  | cons d ds ih =>
    by_cases hd : d = .label tgt
    · simp [scanDown, hd]
    · simp [scanDown, hd, ih, Ne.symm hd]

theorem scan_not_above (tgt : String) (up down : List Line) (ba bb : Nat) (h : Line.label tgt ∉ up) :
    scan tgt up down ba bb = (scanDown tgt down bb).map fun d => (false, d) := by
  induction up generalizing down ba bb with
  | nil => rw [scan]
  | cons u us ih =>
    have hu := (List.ne_of_not_mem_cons h).symm
    have hus := List.not_mem_of_not_mem_cons h
    cases down with
    | nil => rw [scan, if_neg hu]; exact ih _ _ _ hus
    | cons d ds =>
      rw [scan, if_neg hu, scanDown]
      split
      · rfl
      · exact ih _ _ _ hus

theorem scan_none_iff (tgt : String) (up down : List Line) (ba bb : Nat) :
    scan tgt up down ba bb = none ↔ (Line.label tgt ∉ up ∧ Line.label tgt ∉ down) := by
  induction up generalizing down ba bb with
  | nil => simp [scan, scanDown_none_iff]
  | cons u us ih =>
    by_cases hu : u = .label tgt
    · simp [scan, hu]
    · cases down with
      | nil => simp [scan, hu, ih, Ne.symm hu]
      | cons d ds =>
        by_cases hd : d = .label tgt
        · simp [scan, hu, hd]
        · simp [scan, hu, hd, ih, Ne.symm hu, Ne.symm hd]

/-- `h2` asks more than the lock-step search does (the label may stand below, further from the branch than above);
    C03 takes it from its own hypotheses -/
theorem scan_above (tgt : String) (u₁ u₂ down : List Line) (ba bb : Nat)
    (h1 : Line.label tgt ∉ u₁) (h2 : Line.label tgt ∉ down) :
    scan tgt (u₁ ++ Line.label tgt :: u₂) down ba bb = some (true, ba + sizeBytes u₁) := by
  induction u₁ generalizing down ba bb with
  | nil => simp [scan, sizeBytes_nil]
  | cons u us ih =>
    have hu := List.ne_of_not_mem_cons h1
    have hus := List.not_mem_of_not_mem_cons h1
    cases down with
    | nil => simp only [List.cons_append, scan, if_neg (Ne.symm hu), ih _ _ _ hus h2, sizeBytes_cons, Nat.add_assoc]
    | cons d ds =>
      have hd := List.ne_of_not_mem_cons h2
      have hds := List.not_mem_of_not_mem_cons h2
      simp only [List.cons_append, scan, if_neg (Ne.symm hu), if_neg (Ne.symm hd), ih _ _ _ hus hds,
        sizeBytes_cons, Nat.add_assoc]

theorem scan_below (tgt : String) (d₁ d₂ up : List Line) (ba bb : Nat)
    (h1 : Line.label tgt ∉ d₁) (h2 : Line.label tgt ∉ up) :
    scan tgt up (d₁ ++ Line.label tgt :: d₂) ba bb = some (false, bb + sizeBytes d₁) := by
  rw [scan_not_above _ _ _ _ _ h2, scanDown_found _ _ _ _ h1]; rfl

theorem drop_succ_mid (pre : List Line) (b : Line) (rest : List Line) :
    (pre ++ b :: rest).drop (pre.length + 1) = rest := by
  rw [List.append_cons]
  exact List.drop_left' (by simp)

theorem measure_mid (pre : List Line) (b : Line) (rest : List Line) (tgt : String) :
    measure (pre ++ b :: rest) pre.length tgt = scan tgt (b :: pre.reverse) rest 0 0 := by
  rw [measure, drop_succ_mid, List.append_cons, List.take_left' (by simp), List.reverse_append]; rfl

/-- one step of `findFarFrom`, at line `l` with index `i` -/
inductive FarStep (code : Code) (i : Nat) (l : Line) (rest : List Line) : Prop
  | next (goesOn : findFarFrom code i (l :: rest) = findFarFrom code (i + 1) rest)
      (near : ∀ ins, l = .instr ins → ins.mn.isChecked = true →
        ∃ a d, measure code i ins.opd = some (a, d) ∧ d ≤ 127)
  | missing (ins : Instr) (hl : l = .instr ins) (hc : ins.mn.isChecked = true) (hm : measure code i ins.opd = none)
      (panics : findFarFrom code i (l :: rest) = .panic)
  | far (stops : findFarFrom code i (l :: rest) = .at i)

theorem findFarFrom_step (code : Code) (i : Nat) (l : Line) (rest : List Line) : FarStep code i l rest := by
  cases l with
  | instr j =>
    by_cases hc : j.mn.isChecked = true
    · match hm : measure code i j.opd with
      | none => exact .missing j rfl hc hm (by simp only [findFarFrom, hc, hm, if_true])
      | some (a, d) =>
        by_cases hd : d > 127
        · exact .far (by simp only [findFarFrom, hc, hm, hd, if_true])
        · exact .next (by simp only [findFarFrom, hc, hm, hd, if_true, if_false])
            fun _ e _ => by cases e; exact ⟨a, d, hm, by omega⟩
    · exact .next (by rw [findFarFrom, if_neg hc]) fun _ e h => by cases e; exact absurd h hc
  | _ => exact .next rfl fun _ e => nomatch e

theorem findFarFrom_cons_none {code : Code} {i : Nat} {l : Line} {rest : List Line}
    (h : findFarFrom code i (l :: rest) = Far.none) :
    findFarFrom code (i + 1) rest = Far.none ∧
      ∀ ins, l = Line.instr ins → ins.mn.isChecked = true →
        ∃ a d, measure code i ins.opd = some (a, d) ∧ d ≤ 127 := by
  cases findFarFrom_step code i l rest with
  | next goesOn near => exact ⟨goesOn ▸ h, near⟩
  | missing _ _ _ _ panics => exact nomatch h.symm.trans panics
  | far stops => exact nomatch h.symm.trans stops

theorem findFarFrom_none {code : Code} {pre post : List Line} {br : Instr} {i : Nat}
    (h : findFarFrom code i (pre ++ Line.instr br :: post) = Far.none) (hc : br.mn.isChecked = true) :
    ∃ a d, measure code (i + pre.length) br.opd = some (a, d) ∧ d ≤ 127 := by
  induction pre generalizing i with
  | nil => exact (findFarFrom_cons_none h).2 br rfl hc
  | cons p ps ih =>
    have := ih (findFarFrom_cons_none h).1
    rwa [Nat.add_assoc, Nat.add_comm 1] at this

theorem findFarFrom_panic {code : Code} {rest : List Line} {i : Nat} (h : findFarFrom code i rest = Far.panic) :
    ∃ (k : Nat) (ins : Instr), rest[k]? = some (Line.instr ins) ∧ ins.mn.isChecked = true ∧
      measure code (i + k) ins.opd = none := by
  induction rest generalizing i with
  | nil => cases h
  | cons l ls ih =>
    cases findFarFrom_step code i l ls with
    | next goesOn _ =>
      obtain ⟨k, ins, hk, hc, hm⟩ := ih (goesOn ▸ h)
      exact ⟨k + 1, ins, by simpa using hk, hc, by rwa [Nat.add_assoc, Nat.add_comm 1] at hm⟩
    | missing ins hl hc hm _ => exact ⟨0, ins, congrArg some hl, hc, hm⟩
    | far stops => exact nomatch h.symm.trans stops

theorem findFar_none_scan {pre post : Code} {br : Instr}
    (h : findFar (pre ++ Line.instr br :: post) = Far.none) (hc : br.mn.isChecked = true) :
    ∃ a d, scan br.opd (Line.instr br :: pre.reverse) post 0 0 = some (a, d) ∧ d ≤ 127 := by
  have := findFarFrom_none h hc
  rwa [Nat.zero_add, measure_mid] at this

theorem checked_cases {mn : Mn} (hc : mn.isChecked = true) :
    mn = .BEQ ∨ mn = .BNE ∨ mn = .BMI ∨ mn = .BPL ∨ mn = .BCS ∨ mn = .BCC := by
  unfold Mn.isChecked at hc
  split at hc <;> simp at hc ⊢

end CV
