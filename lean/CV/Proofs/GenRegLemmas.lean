/-
  Every statement of CV.GenReg: its code ends and leaves exactly the memory, X and Y the source prescribes (including the
  scratch write), SP is where it was, and the generator's belief about the flags afterwards is true (`rflat_correct`).
  Stage 1 (CV.GenFlat) follows by embedding. The `r` of `rflat_correct`, `rgenOps`, `rspec`, … stands for the statements
  with the register variables X and Y (stage 3 on); the same names without it belong to stage 1.
-/
import CV.Proofs.GenRegTrees
namespace CV.GenReg
open CV.GenFlat

theorem chainVal_sp (L : Layout) (σ : SrcSt) (a : Byte) (ops : List (BOp × RA)) : (chainVal L σ a ops).1.sp = σ.sp := by
  induction ops generalizing σ a with
  | nil => rfl
  | cons p rest ih => exact (ih _ _).trans (tmpWrite_sp L σ p.1 p.2)

theorem linVal_sp (L : Layout) (σ : SrcSt) (e : LExpr) : (linVal L σ e).1.sp = σ.sp := by
  induction e with
  | pair a op b => exact tmpWrite_sp L σ op _
  | left e op b ih => exact (tmpWrite_sp L _ op b).trans ih
  | right a op e ih =>
    simp only [linVal]
    split
    · exact ih                                          -- `a - e`: only the scratch cell is written
    · exact (tmpWrite_sp L _ op a).trans ih

theorem rspec_sp (L : Layout) (σ : SrcSt) (st : RStmt) : (rspec L σ st).sp = σ.sp := by
  cases st with
  | expr v e =>
    simp only [rspec, exprSpec]
    split
    · split
      · rename_i h; exact (wr_sp L _ v _).trans (evalE_sp L h)
      · rfl
    · rfl
  | lin v e => exact (wr_sp L _ v _).trans (linVal_sp L σ e)
  | chain v a op1 b1 ops => exact (wr_sp L _ v _).trans (chainVal_sp L σ _ _)
  | bin v op a b => simp only [rspec, binSpec]; split <;> simp
  | opasg v op a => simp only [rspec, binSpec]; split <;> simp
  | _ => simp [rspec, asgWSpec, binWSpec]

theorem linCode_exec (L : Layout) (e : LExpr) (s : Cpu) :
    ∃ s2, execSeq s (linCode Opd.none (opd L) e) = some s2 ∧ s2.a = (linVal L (srcOf s) e).2 ∧
      srcOf s2 = (linVal L (srcOf s) e).1 ∧ s2.sp = s.sp ∧ s2.f.z = (s2.a == 0) := by
  obtain ⟨s2, e2, m2, a2, z2⟩ := linCode_computes L e s
  exact ⟨s2, e2, a2, m2, (congrArg SrcSt.sp m2).trans (linVal_sp L _ e), z2⟩

theorem rflat_performs (L : Layout) (zp : String → Bool) (st : RStmt) (fl : Option FRef) (s : Cpu) (hinv : FlagsInv L fl s) :
    Performs L s (rgenOps L zp st) (rspec L (srcOf s) st) (flagsAfter zp fl st) := by
  cases st with
  | asg v a => exact asgCode_performs L zp s fl v a hinv
  | bin v op a b => exact binCode_performs L zp s fl v op _ _ hinv
  | opasg v op a => exact binCode_performs L zp s fl v op v.ra a hinv
  | inc v => exact incCode_performs L s true v
  | dec v => exact incCode_performs L s false v
  | lin v e => exact (linCode_computes L e s).assign L v
  | chain v a op1 b1 ops =>
    exact ((loadA_computes L s _).seq (chainVal L · · ((op1, (rordered op1 a b1).2) :: ops)) (chainCode_computes L _)).assign L v
  | expr v e => exact exprCode_performs L s fl v e hinv
  | asgW v a => exact asgWCode_performs L s v a
  | binW v op a b => exact binWCode_performs L s v op _ _
  | opasgW v op a => exact binWCode_performs L s v op (.wvar v) a

theorem rflat_correct (L : Layout) (zp : String → Bool) (st : RStmt) (fl : Option FRef) (s : Cpu) (hinv : FlagsInv L fl s) :
    ∃ s', execSeq s (rgenOps L zp st) = some s' ∧ srcOf s' = rspec L (srcOf s) st ∧ s'.sp = s.sp ∧
      FlagsInv L (flagsAfter zp fl st) s' := by
  obtain ⟨s', e, m, f⟩ := rflat_performs L zp st fl s hinv
  exact ⟨s', e, m, (congrArg SrcSt.sp m).trans (rspec_sp L _ st), f⟩

theorem rordered_cases (op : BOp) (a b : RA) :
    rordered op a b = (a, b) ∨ (rordered op a b = (b, a) ∧ op.commutes = true) := by
  unfold rordered
  split
  · next h =>
    simp only [Bool.and_eq_true] at h
    obtain ⟨⟨hc, -⟩, -⟩ := h
    exact .inr ⟨rfl, hc⟩
  · exact .inl rfl

theorem rordered_apply (L : Layout) (σ : SrcSt) (op : BOp) (a b : RA) :
    op.apply (rval L σ (rordered op a b).1) (rval L σ (rordered op a b).2) = op.apply (rval L σ a) (rval L σ b) := by
  rcases rordered_cases op a b with h | ⟨h, hc⟩ <;> rw [h]
  exact BOp.apply_comm op hc _ _

end CV.GenReg

namespace CV.GenFlat
open CV.GenReg

/-- a statement of stage 1 as one of stage 3: variables for targets, atoms for operands -/
def FStmt.toR : FStmt → RStmt
  | .asg v a => .asg (.var v) (.of a)
  | .bin v op a b => .bin (.var v) op (.of a) (.of b)
  | .opasg v op a => .opasg (.var v) op (.of a)
  | .inc v => .inc (.var v)
  | .dec v => .dec (.var v)

theorem rordered_of (op : BOp) (a b : Atom) : rordered op (.of a) (.of b) = (.of (ordered op a b).1, .of (ordered op a b).2) := by
  have hc : ∀ a : Atom, (RA.of a).isConst = a.isConst := fun a => by cases a <;> rfl
  unfold rordered ordered
  rw [hc, hc]
  split <;> rfl

theorem opCode_of (L : Layout) (op : BOp) (y : Atom) :
    opCode Opd.none (opd L) op (.of y) = (opInstrs op y).map fun mn => (mn, if mn == .CLC || mn == .SEC then Opd.none else opd L y) := by
  unfold opCode opInstrs
  rw [show rIsIdentity op (.of y) = isIdentity op y from rfl]
  cases op <;> cases isIdentity _ y <;> rfl

theorem orZeroReg_of (op : BOp) (a : Atom) (b : RA) : orZeroReg op (.of a) b = false := by
  simp [orZeroReg, RA.isReg]

theorem binCode_of (L : Layout) (zp : String → Bool) (v : String) (op : BOp) (x y : Atom) :
    binCode Opd.none (opd L) zp (.var v) op (.of x) (.of y) =
      [(Mn.LDA, opd L x)] ++ (opInstrs op y).map (fun mn => (mn, if mn == .CLC || mn == .SEC then Opd.none else opd L y)) ++ [(Mn.STA, opd L (.var v))] := by
  rw [binCode, orZeroReg_of, opCode_of]; rfl

theorem genOps_toR (L : Layout) (zp : String → Bool) (st : FStmt) : rgenOps L zp st.toR = genOps L st := by
  cases st with
  | bin v op a b => simp only [FStmt.toR, rgenOps, rtemplate, rordered_of, binCode_of]; rfl
  | opasg v op a => exact binCode_of L zp v op (.var v) a
  | _ => rfl

theorem ordered_apply (L : Layout) (m : Mem) (x y : Byte) (op : BOp) (a b : Atom) :
    op.apply (val L m x y (ordered op a b).1) (val L m x y (ordered op a b).2) = op.apply (val L m x y a) (val L m x y b) := by
  have h := rordered_apply L { mem := m, x := x, y := y, sp := 0 } op (.of a) (.of b)
  rw [rordered_of] at h; exact h

theorem binSpec_of (L : Layout) (σ : SrcSt) (v : String) (op : BOp) (x y : Atom) :
    binSpec L σ (.var v) op (.of x) (.of y) = { σ with mem := σ.mem.write (L v) (op.apply (val L σ.mem σ.x σ.y x) (val L σ.mem σ.x σ.y y)) } := by
  rw [binSpec, orZeroReg_of]; rfl

theorem rspec_toR (L : Layout) (σ : SrcSt) (st : FStmt) : rspec L σ st.toR = { σ with mem := spec L σ.mem σ.x σ.y st } := by
  cases st with
  | bin v op a b => simp only [FStmt.toR, rspec, rordered_of, binSpec_of, ordered_apply]; rfl
  | opasg v op a => exact binSpec_of L σ v op (.var v) a
  | _ => rfl

theorem flagsAfter_toR (zp : String → Bool) (fl : Option FRef) (st : FStmt) : flagsAfter zp fl st.toR = some (.var (target st)) := by
  cases st with
  | bin v op a b => simp only [FStmt.toR, flagsAfter, rordered_of, orZeroReg_of]; rfl
  | opasg v op a => simp only [FStmt.toR, flagsAfter, LV.ra, orZeroReg_of]; rfl
  | _ => rfl

/-- Z describes the assigned variable: the fact the generator's flag belief rests on -/
theorem flat_correct (L : Layout) (st : FStmt) (s : Cpu) :
    ∃ s', execSeq s (genOps L st) = some s' ∧ s'.mem = spec L s.mem s.x s.y st ∧
      s'.x = s.x ∧ s'.y = s.y ∧ s'.sp = s.sp ∧ s'.f.z = (s'.mem.read (L (target st)) == 0) := by
  obtain ⟨s', e, m, p, f⟩ := rflat_correct L (fun _ => false) st.toR none s trivial
  rw [genOps_toR] at e; rw [rspec_toR] at m; rw [flagsAfter_toR] at f
  exact ⟨s', e, congrArg SrcSt.mem m, congrArg SrcSt.x m, congrArg SrcSt.y m, p, f⟩

theorem gen_stmt_correct (L : Layout) (st : FStmt) (s : Cpu) :
    ∃ s', execSeq s (genOps L st) = some s' ∧ s'.mem = spec L s.mem s.x s.y st ∧
      s'.x = s.x ∧ s'.y = s.y ∧ s'.sp = s.sp := by
  obtain ⟨s', e, m, x, y, p, _⟩ := flat_correct L st s
  exact ⟨s', e, m, x, y, p⟩

end CV.GenFlat
