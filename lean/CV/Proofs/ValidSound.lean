/-
  The two local arguments about dead resources: an instruction the validator lets go changes only what is dead behind
  it, or nothing (`removable_keeps`, rule by rule of `removable`); a claim of the liveness table is justified at its
  line (`dead_local`, all that is used of the table), read by the kind of line (`dead_filler`, `dead_ins_read`, …).
-/
import CV.Proofs.ValidAgree
import CV.Proofs.ValidFacts
import CV.Proofs.ValidSim
namespace CV.Valid

/-- setting `r`, and N and Z with it, from `v` is not seen through `D`: `r` is dead or holds `v` already; N and Z are dead
    or describe a register that holds `v` -/
theorem setReg_unseen {D : Res → Bool} {s : Cpu} {r : Res} {v : Byte} (hv : D r = true ∨ v = regVal s r)
    (hnz : D .nz = true ∨ ∃ q, nzHolds s (some q) ∧ regVal s q = v) : Agree D (setReg s r v) s := by
  have live : ∀ {q : Res} {P : Prop}, D q = true ∨ P → D q = false → P :=
    fun h e => h.resolve_left fun d => Bool.false_ne_true (e.symm.trans d)
  have hnz' : D .nz = false → (Cpu.setNZ s.f v).n = s.f.n ∧ (Cpu.setNZ s.f v).z = s.f.z := fun e => by
    obtain ⟨q, hq, rfl⟩ := live hnz e
    exact ⟨hq.1.symm, hq.2.symm⟩
  cases r
  case a => exact { Agree.refl D s with a := live hv, nz := hnz' }
  case x => exact { Agree.refl D s with x := live hv, nz := hnz' }
  case y => exact { Agree.refl D s with y := live hv, nz := hnz' }
  all_goals exact Agree.refl _ _

/-- said of the two registers of a transfer only: `srcOfReg` means nothing for a flag -/
theorem sameReg_sound {K : Facts} {s : Cpu} (hK : K.holds s) {mn : Mn} {sr d : Res} (htr : transfer mn = some (sr, d))
    (h : sameReg K sr d = true) : regVal s sr = regVal s d := by
  unfold transfer at htr
  split at htr <;> cases htr <;>
    exact (Bool.or_eq_true_iff.mp h).elim (fun h => (hK.reg _ _ (List.contains_iff_mem.mp h)).symm)
      (fun h => hK.reg _ _ (List.contains_iff_mem.mp h))

/-- `D`: what is dead BEHIND the instruction -/
theorem removable_keeps {K : Facts} {D : Res → Bool} {mn : Mn} {o : Opd} {s s' : Cpu}
    (hK : K.holds s) (hrem : removable K D mn o = true) (he : s.exec mn o = some s') : Agree D s' s := by
  -- what rules (2) and (5) ask of N and Z, `v` being the value of `q`
  have flags : ∀ {q : Res} {v : Byte}, regVal s q = v → (K.nz == some q || D .nz) = true →
      D .nz = true ∨ ∃ q, nzHolds s (some q) ∧ regVal s q = v := fun hv h =>
    (Bool.or_eq_true_iff.mp h).symm.imp_right fun hk => ⟨_, eq_of_beq hk ▸ hK.nz, hv⟩
  simp only [removable, Bool.or_eq_true] at hrem
  -- the six rules, numbered as in the definition of `removable`
  rcases hrem with ((((h | h) | h) | h) | h) | h
  · -- (1)
    obtain ⟨hkind, h⟩ := Bool.and_eq_true_iff.mp h
    obtain ⟨h, hdnz⟩ := Bool.and_eq_true_iff.mp h
    obtain ⟨hl, ht⟩ := Bool.and_eq_true_iff.mp h
    cases hlr : loadReg mn with
    | some r =>
      rw [hlr] at hl
      rw [exec_load hlr] at he
      obtain ⟨v, -, rfl⟩ := Option.map_eq_some_iff.mp he
      exact setReg_unseen (.inl hl) (.inl hdnz)
    | none =>
      cases htr : transfer mn with
      | none => rw [hlr, htr] at hkind; cases hkind
      | some p =>
        rw [htr] at ht
        rw [exec_transfer htr] at he
        cases he
        exact setReg_unseen (.inl ht) (.inl hdnz)
  · -- (2)
    cases hlr : loadReg mn with
    | none => rw [hlr] at h; cases h
    | some r =>
      rw [hlr] at h
      obtain ⟨hc, hnz⟩ := Bool.and_eq_true_iff.mp h
      rw [exec_load hlr] at he
      obtain ⟨v, hv, rfl⟩ := Option.map_eq_some_iff.mp he
      have hr := optHolds_rd (hK.reg r) hc hv
      exact setReg_unseen (.inr hr) (flags hr.symm hnz)
  · -- (3)
    cases htr : transfer mn with
    | none => rw [htr] at h; cases h
    | some p =>
      obtain ⟨sr, d⟩ := p
      rw [htr] at h
      obtain ⟨hsame, hnz⟩ := Bool.and_eq_true_iff.mp h
      have heq := sameReg_sound hK htr hsame
      rw [exec_transfer htr] at he
      cases he
      refine setReg_unseen (.inr heq) ?_
      -- N and Z may describe the source or the target: they hold the same value
      rcases Bool.or_eq_true_iff.mp hnz with h | h
      · rcases Bool.or_eq_true_iff.mp h with h | h
        · exact .inr ⟨sr, eq_of_beq h ▸ hK.nz, rfl⟩
        · exact .inr ⟨d, eq_of_beq h ▸ hK.nz, heq.symm⟩
      · exact .inl h
  · -- (4)
    cases hsr : storeReg mn with
    | none => rw [hsr] at h; cases h
    | some r =>
      rw [hsr] at h
      rw [exec_store hsr] at he
      obtain ⟨ad, hea, rfl⟩ := Option.map_eq_some_iff.mp he
      rw [← optHolds_rd (hK.reg r) h (rd_of_ea hea), Mem.write_read_same]
      exact Agree.refl _ _
  · -- (5)
    obtain ⟨h, hnz⟩ := Bool.and_eq_true_iff.mp h
    obtain ⟨hmn, ho⟩ := Bool.and_eq_true_iff.mp h
    cases eq_of_beq hmn; cases eq_of_beq ho; cases he
    have e : s.a ||| 0 = s.a := BitVec.or_zero
    exact setReg_unseen (r := .a) (.inr e) (flags (q := .a) e.symm hnz)
  · -- (6)
    obtain ⟨h, hdc⟩ := Bool.and_eq_true_iff.mp h
    obtain ⟨hmn, hdnz⟩ := Bool.and_eq_true_iff.mp h
    have isDead : ∀ {r : Res} {P : Prop}, D r = true → D r = false → P := fun h e => nomatch h.symm.trans e
    have cmp : ∀ r v, Agree D (s.cmp r v) s := fun _ _ =>
      { Agree.refl D s with nz := isDead hdnz, c := isDead hdc }
    simp only [Bool.or_eq_true, beq_iff_eq] at hmn
    rcases hmn with (rfl | rfl) | rfl
    all_goals
      obtain ⟨v, -, rfl⟩ := Option.map_eq_some_iff.mp he
      exact cmp _ v

theorem removable_sound (K : Facts) (D : Res → Bool) (mn : Mn) (o : Opd) (s1 s2 s1' : Cpu)
    (hK : K.holds s1) (hag : Agree D s1 s2) (hrem : removable K D mn o = true) (he : s1.exec mn o = some s1') :
    Agree D s1' s2 :=
  (removable_keeps hK hrem he).trans hag

theorem consistent_empty (code : VCode) : consistentB code DTable.empty = true := by
  simp [consistentB, allRes, DTable.empty, DTable.row]

theorem deadTable_consistent (code : VCode) : consistentB code (deadTable code) = true := by
  unfold deadTable
  simp only
  split
  · assumption
  · exact consistent_empty code

/-- the statement is the body of `localOK` for `deadTable code`, the claim itself taken as given. `deadTable` checks as
    much (`consistentB`) before it hands a table out; how the table was found plays no part. -/
theorem dead_local (code : VCode) (r : Res) (k : Nat) (h : dead code r k = true) :
    (match code[k]? with
     | some .dummy | some (.lab _) => dead code r (k + 1)
     | some (.ins mn o) => !readsReg mn o r && (writesReg mn o r || dead code r (k + 1))
     | some .rts => exitDead r
     | some (.br mn l) =>
       !brReads mn r && dead code r (k + 1) && (match findLab code l with | some t => dead code r t | none => false)
     | some (.jmp l) => (match findLab code l with | some t => dead code r t | none => false)
     | _ => false) = true := by
  have hc := deadTable_consistent code
  simp only [consistentB, List.all_eq_true, List.mem_range] at hc
  have hk : k < ((deadTable code).row r).length := by
    unfold dead DTable.at at h
    cases hl : ((deadTable code).row r)[k]? with
    | none => simp [List.getD, hl] at h
    | some b => exact (List.getElem?_eq_some_iff.mp hl).1
  have := hc r (mem_allRes r) k hk
  unfold localOK at this
  have h' : (deadTable code).at r k = true := h
  simp only [h', Bool.not_true, Bool.false_or] at this
  exact this

section
variable {code : VCode} {r : Res} {k : Nat}

theorem dead_filler (h : isFiller code k) (hd : dead code r k = true) : dead code r (k + 1) = true := by
  have := dead_local code r k hd
  rcases h with h | ⟨l, h⟩ <;> rw [h] at this <;> exact this

theorem filler_agree {s1 s2 : Cpu} (h : isFiller code k) (hag : Agree (fun r => dead code r k) s1 s2) :
    Agree (fun r => dead code r (k + 1)) s1 s2 :=
  hag.mono fun _ hr => dead_filler h hr

theorem dead_ins_read {mn : Mn} {o : Opd} (h : code[k]? = some (.ins mn o)) (hr : readsReg mn o r = true) :
    dead code r k = false := by
  cases hd : dead code r k with
  | false => rfl
  | true =>
    have := dead_local code r k hd
    rw [h] at this
    have := (Bool.and_eq_true_iff.mp this).1
    rw [hr] at this; cases this

/-- `dead_local` at an instruction read backwards: what is live behind it and not written by it is live in front of it.
    The form in which `exec_agree` asks (`hD`). -/
theorem live_ins_next {mn : Mn} {o : Opd} (h : code[k]? = some (.ins mn o)) (hn : dead code r (k + 1) = false) :
    writesReg mn o r = true ∨ dead code r k = false := by
  cases hd : dead code r k with
  | false => exact Or.inr rfl
  | true =>
    have := dead_local code r k hd
    rw [h] at this
    have := (Bool.and_eq_true_iff.mp this).2
    rw [hn, Bool.or_false] at this
    exact Or.inl this

theorem dead_rts (h : code[k]? = some .rts) (hd : dead code r k = true) : exitDead r = true := by
  have := dead_local code r k hd
  rw [h] at this; exact this

theorem dead_jmp {l : String} {t : Nat} (h : code[k]? = some (.jmp l)) (ht : findLab code l = some t)
    (hd : dead code r k = true) : dead code r t = true := by
  have := dead_local code r k hd
  simp only [h, ht] at this; exact this

theorem dead_br {mn : Mn} {l : String} (h : code[k]? = some (.br mn l)) (hd : dead code r k = true) :
    brReads mn r = false ∧ dead code r (k + 1) = true ∧ ∀ t, findLab code l = some t → dead code r t = true := by
  have := dead_local code r k hd
  rw [h] at this
  obtain ⟨h12, h3⟩ := Bool.and_eq_true_iff.mp this
  obtain ⟨h1, h2⟩ := Bool.and_eq_true_iff.mp h12
  exact ⟨Bool.not_eq_true' _ ▸ h1, h2, fun t ht => by rw [ht] at h3; exact h3⟩

theorem dead_br_next {mn : Mn} {l : String} (h : code[k]? = some (.br mn l)) (hd : dead code r k = true) :
    dead code r (k + 1) = true :=
  (dead_br h hd).2.1

theorem dead_br_taken {mn : Mn} {l : String} {t : Nat} (h : code[k]? = some (.br mn l)) (ht : findLab code l = some t)
    (hd : dead code r k = true) : dead code r t = true :=
  (dead_br h hd).2.2 t ht

theorem dead_br_read {mn : Mn} {l : String} (h : code[k]? = some (.br mn l)) (hr : brReads mn r = true) :
    dead code r k = false := by
  cases hd : dead code r k with
  | false => rfl
  | true => exact absurd ((dead_br h hd).1.symm.trans hr) Bool.false_ne_true

theorem dead_ext {id : Nat} (h : code[k]? = some (.ext id)) : dead code r k = false := by
  cases hd : dead code r k with
  | false => rfl
  | true => have := dead_local code r k hd; rw [h] at this; cases this

end

end CV.Valid
