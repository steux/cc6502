/-
  The label discipline of generated code (`Tidy`): a piece defines labels that are new and pairwise distinct, and
  branches only to them or to labels it was given. Pieces generated one after the other have disjoint labels because
  their counter ranges follow each other (`Tidy.append`); a construct adds glue that defines its own labels, named at
  its entry (`Glued`, `Tidy.frame`). Such code is `Placed` behind any code whose labels are older (`Tidy.placed`).
-/
import CV.Proofs.GenStructMachine
import CV.Proofs.GenStructShape

namespace CV.C13
open CV.GenStruct CV.GenFlat

/-- the labels a piece of code branches or jumps to, in order; in `CV.C13` because that property's statement
    (`gen_targets_defined`) is about it -/
def targets : List GLine → List Lbl
  | [] => []
  | .br _ l :: r => l :: targets r
  | .jmp l :: r => l :: targets r
  | _ :: r => targets r

@[simp] theorem targets_nil : targets [] = [] := rfl
@[simp] theorem targets_lab (l : Lbl) (r : List GLine) : targets (.lab l :: r) = targets r := rfl
@[simp] theorem targets_ins (mn : Mn) (a : Option Atom) (r : List GLine) : targets (.ins mn a :: r) = targets r := rfl
@[simp] theorem targets_br (mn : Mn) (l : Lbl) (r : List GLine) : targets (.br mn l :: r) = l :: targets r := rfl
@[simp] theorem targets_jmp (l : Lbl) (r : List GLine) : targets (.jmp l :: r) = l :: targets r := rfl
@[simp] theorem targets_jmp_single (l : Lbl) : targets [GLine.jmp l] = [l] := rfl

@[simp] theorem targets_append (p q : List GLine) : targets (p ++ q) = targets p ++ targets q := by
  induction p with
  | nil => rfl
  | cons x xs ih => cases x <;> simp [targets, ih]

end CV.C13

namespace CV.GenStruct
open CV.GenFlat CV.GenReg CV.C13

/-- `l` was allocated between generator states `g` and `g'` -/
def NewIn (g g' : GState) (l : Lbl) : Prop := g.ctr l.kind.ctr < l.idx ∧ l.idx ≤ g'.ctr l.kind.ctr
/-- no counter went back -/
def Mono (g g' : GState) : Prop := ∀ c, g.ctr c ≤ g'.ctr c
/-- every label defined in `code` was allocated before `g`: what the end results ask of the code in front -/
def Old (g : GState) (code : List GLine) : Prop := ∀ l ∈ labels code, l.idx ≤ g.ctr l.kind.ctr

/-- what a generator step `g ↦ r` guarantees of the labels it defines -/
def Fresh (g : GState) (r : List GLine × GState) : Prop :=
  Mono g r.2 ∧ ∀ l ∈ labels r.1, NewIn g r.2 l

theorem Mono.refl (g : GState) : Mono g g := fun _ => Nat.le_refl _
theorem Mono.trans {a b c : GState} (h1 : Mono a b) (h2 : Mono b c) : Mono a c :=
  fun k => Nat.le_trans (h1 k) (h2 k)

@[simp] theorem ctr_flags (g : GState) (x : Option FRef) (c : Ctr) : ({ g with flags := x } : GState).ctr c = g.ctr c := by
  cases c <;> rfl

theorem NewIn.widen {a b c d : GState} {l : Lbl} (h : NewIn b c l) (h1 : Mono a b) (h2 : Mono c d) : NewIn a d l :=
  ⟨Nat.lt_of_le_of_lt (h1 _) h.1, Nat.le_trans h.2 (h2 _)⟩

theorem NewIn.ne {g g1 g2 : GState} {a b : Lbl} (ha : NewIn g g1 a) (hb : NewIn g1 g2 b) : a ≠ b := by
  rintro rfl
  have := ha.2
  have := hb.1
  omega

theorem Old.append {g : GState} {p q : List GLine} (hp : Old g p) (hq : Old g q) : Old g (p ++ q) := by
  intro l hl
  simp at hl
  cases hl with
  | inl h => exact hp l h
  | inr h => exact hq l h

theorem Fresh.not_mem_of_old {g : GState} {r : List GLine × GState} {pre : List GLine} {l : Lbl}
    (h : Fresh g r) (hl : l ∈ labels r.1) (ho : Old g pre) : l ∉ labels pre := by
  intro hp
  have h1 := (h.2 l hl).1
  have h2 := ho l hp
  omega

theorem Fresh.rebase {g g0 : GState} {r : List GLine × GState} (hm : Mono g g0) (h : Fresh g0 r) : Fresh g r :=
  ⟨hm.trans h.1, fun l hl => (h.2 l hl).widen hm (Mono.refl _)⟩

theorem Fresh.append {g g1 : GState} {c1 : List GLine} {r : List GLine × GState}
    (h1 : Fresh g (c1, g1)) (h2 : Fresh g1 r) : Fresh g (c1 ++ r.1, r.2) := by
  refine ⟨h1.1.trans h2.1, ?_⟩
  intro l hl
  simp at hl
  cases hl with
  | inl h => exact (h1.2 l h).widen (Mono.refl _) h2.1
  | inr h => exact (h2.2 l h).widen h1.1 (Mono.refl _)

theorem fresh_flags_left (g : GState) (x : Option FRef) (r : List GLine × GState) :
    Fresh { g with flags := x } r ↔ Fresh g r := by
  simp [Fresh, Mono, NewIn]

theorem fresh_flags_right (g g' : GState) (x : Option FRef) (c : List GLine) :
    Fresh g (c, { g' with flags := x }) ↔ Fresh g (c, g') := by
  simp [Fresh, Mono, NewIn]

/-- the label of kind `k` allocated at `g`: the next value of the kind's counter (`.ifstart`: the present one, see
    `Lbl.idx`) -/
def GState.next (g : GState) (k : LKind) : Lbl :=
  ⟨k, match k with | .ifstart => g.ctr k.ctr | _ => g.ctr k.ctr + 1⟩

theorem GState.next_idx (g : GState) (k : LKind) : (g.next k).idx = g.ctr k.ctr + 1 := by cases k <;> rfl

/-- the step `g → g0` a construct takes before it generates its parts: the counter `c` its own labels are numbered by
    goes up, none goes back -/
structure Bump (g g0 : GState) (c : Ctr) : Prop where
  mono : Mono g g0
  next : g.ctr c + 1 ≤ g0.ctr c

theorem bump_cIf (g : GState) : Bump g { g with cIf := g.cIf + 1 } .cIf :=
  ⟨fun c => by cases c <;> simp [GState.ctr], Nat.le_refl _⟩
theorem bump_cWhile (g : GState) (x : Option FRef) : Bump g { g with cWhile := g.cWhile + 1, flags := x } .cWhile :=
  ⟨fun c => by cases c <;> simp [GState.ctr], Nat.le_refl _⟩
theorem bump_cFor (g : GState) : Bump g { g with cFor := g.cFor + 1 } .cFor :=
  ⟨fun c => by cases c <;> simp [GState.ctr], Nat.le_refl _⟩

/-- `code` is `inner` with glue put in: lines that define the labels `ls`, in this order, and branch only to `own` -/
inductive Glued (own : List Lbl) : List Lbl → List GLine → List GLine → Prop
  | nil : Glued own [] [] []
  | part {ls : List Lbl} {i c : List GLine} (p : List GLine) : Glued own ls i c → Glued own ls (i ++ p) (c ++ p)
  | glue {ls : List Lbl} {i c : List GLine} (gl : List GLine) (h : ∀ l ∈ targets gl, l ∈ own) :
      Glued own ls i c → Glued own (ls ++ labels gl) i (c ++ gl)

theorem Glued.glueLabel {own ls : List Lbl} {i c : List GLine} (l : Lbl) (h : Glued own ls i c) :
    Glued own (ls ++ [l]) i (c ++ [.lab l]) :=
  h.glue [.lab l] fun _ h => nomatch h

theorem Glued.labels {own ls : List Lbl} {i c : List GLine} (h : Glued own ls i c) : (labels c).Perm (ls ++ labels i) := by
  induction h with
  | nil => exact .refl _
  | part p _ ih => rw [labels_append, labels_append, ← List.append_assoc]; exact ih.append_right _
  | glue gl _ _ ih =>
    rw [labels_append, List.append_assoc]
    exact (ih.append_right _).trans (by rw [List.append_assoc]; exact List.perm_append_comm.append_left _)

theorem Glued.targets {own ls : List Lbl} {i c : List GLine} (h : Glued own ls i c) :
    ∀ l ∈ targets c, l ∈ targets i ∨ l ∈ own := by
  induction h with
  | nil => exact fun _ h => nomatch h
  | part p _ ih =>
    intro l hl
    rw [targets_append, List.mem_append] at hl ⊢
    exact hl.elim (fun h => (ih l h).imp_left .inl) fun h => .inl (.inr h)
  | glue gl hg _ ih =>
    intro l hl
    rw [targets_append, List.mem_append] at hl
    exact hl.elim (ih l) fun h => .inr (hg l h)

/-- the label discipline of a piece `r` generated at `g`: the labels it defines are new and pairwise distinct, and it
    branches only to them or to the labels `ext` it was given -/
structure Tidy (g : GState) (r : List GLine × GState) (ext : List Lbl) : Prop where
  fresh : Fresh g r
  nodup : (labels r.1).Nodup
  closed : ∀ l ∈ targets r.1, l ∈ labels r.1 ∨ l ∈ ext

namespace Tidy
variable {g g0 g1 g' : GState} {r : List GLine × GState} {c1 code inner : List GLine} {e e' e1 e2 : List Lbl}

theorem weaken (h : Tidy g r e) (he : ∀ l ∈ e, l ∈ e') : Tidy g r e' :=
  { h with closed := fun l hl => (h.closed l hl).imp_right (he l) }

theorem rebase (hm : Mono g g0) (h : Tidy g0 r e) : Tidy g r e :=
  { h with fresh := h.fresh.rebase hm }

theorem flags_left (x : Option FRef) : Tidy { g with flags := x } r e ↔ Tidy g r e :=
  ⟨fun h => { h with fresh := (fresh_flags_left ..).mp h.fresh }, fun h => { h with fresh := (fresh_flags_left ..).mpr h.fresh }⟩

theorem leaf (hm : Mono g r.2) (hl : labels r.1 = []) (ht : ∀ l ∈ targets r.1, l ∈ e) : Tidy g r e :=
  { fresh := ⟨hm, by simp [hl]⟩, nodup := by simp [hl], closed := fun l h => .inr (ht l h) }

theorem nil (hm : Mono g g') : Tidy g ([], g') e := leaf hm rfl fun _ h => nomatch h

theorem append (h1 : Tidy g (c1, g1) e1) (h2 : Tidy g1 r e2) : Tidy g (c1 ++ r.1, r.2) (e1 ++ e2) where
  fresh := h1.fresh.append h2.fresh
  nodup := by
    rw [labels_append, List.nodup_append]
    exact ⟨h1.nodup, h2.nodup, fun a ha b hb => (h1.fresh.2 a ha).ne (h2.fresh.2 b hb)⟩
  closed := fun l hl => by
    simp only [targets_append, labels_append, List.mem_append] at hl ⊢
    rcases hl with hl | hl
    · exact (h1.closed l hl).imp .inl .inl
    · exact (h2.closed l hl).imp .inr .inr

/-- a construct: the code of its parts, generated from `g0` on, with glue that defines its own labels (of the kinds
    `ks`, allocated in the step `g → g0`); the parts may jump to them -/
theorem frame {c : Ctr} {ks : List LKind} (hb : Bump g g0 c) (hks : ks.Nodup) (hc : ∀ k ∈ ks, k.ctr = c)
    (hin : Tidy g0 (inner, g') e) (hG : Glued (ks.map g.next) (ks.map g.next) inner code)
    (he : ∀ l ∈ e, l ∈ ks.map g.next ∨ l ∈ e') :
    Tidy g (code, { g' with flags := none }) e' := by
  have hnew : ∀ l ∈ ks.map g.next, NewIn g g0 l := by
    intro l hl
    obtain ⟨k, hk, rfl⟩ := List.mem_map.mp hl
    have h1 := hc k hk
    have h2 := hb.next
    have h3 := g.next_idx k
    rw [← h1] at h2
    exact ⟨show g.ctr k.ctr < _ by omega, show _ ≤ g0.ctr k.ctr by omega⟩
  have hl := hG.labels
  have mem : ∀ {l}, l ∈ ks.map g.next ∨ l ∈ labels inner → l ∈ labels code := fun h =>
    hl.mem_iff.mpr (List.mem_append.mpr h)
  refine { fresh := (fresh_flags_right ..).mpr ⟨hb.mono.trans hin.fresh.1, fun l hl' => ?_⟩, nodup := ?_, closed := fun l hl' => ?_ }
  · -- new: an own label in the step `g → g0`, a label of a part after it
    rcases List.mem_append.mp (hl.mem_iff.mp hl') with h | h
    · exact (hnew l h).widen (Mono.refl _) hin.fresh.1
    · exact (hin.fresh.2 l h).widen hb.mono (Mono.refl _)
  · -- distinct: the own labels by their kinds, the parts' by hypothesis, the two groups by their counter ranges
    rw [hl.nodup_iff, List.nodup_append]
    exact ⟨hks.map g.next fun a b hab e => hab (congrArg Lbl.kind e), hin.nodup,
      fun a ha b hb' => (hnew a ha).ne (hin.fresh.2 b hb')⟩
  · -- a target of a part is defined in the part or was given to it (`he`); the glue branches to own labels
    rcases hG.targets l hl' with h | h
    · rcases hin.closed l h with h | h
      · exact .inl (mem (.inr h))
      · exact (he l h).imp_left fun h => mem (.inl h)
    · exact .inl (mem (.inl h))

/-- the short-circuit direction of `&&` / `||`: the first piece jumps over the second, to an `.ifstart` label -/
theorem skipOver {r1 r2 : List GLine × GState} {label : Lbl}
    (h1 : Tidy { g with cIf := g.cIf + 1 } r1 [⟨.ifstart, g.cIf⟩]) (h2 : Tidy r1.2 r2 [label]) :
    Tidy g (r1.1 ++ r2.1 ++ [.lab ⟨.ifstart, g.cIf⟩], { r2.2 with flags := none }) [label] :=
  .frame (ks := [.ifstart]) (bump_cIf g) (by decide) (by decide) (h1.append h2)
    (((Glued.nil.part _).part _).glueLabel _) (by simp [GState.next, LKind.ctr, GState.ctr])

theorem placed {pre : List GLine} (post : List GLine) (h : Tidy g r e) (ho : Old g pre) :
    Placed (pre ++ r.1 ++ post) pre.length r.1 :=
  Placed.intro post h.nodup fun _ hl => h.fresh.not_mem_of_old hl ho

end Tidy

@[simp] theorem labels_insLines (ops : List (Mn × Option Atom)) : labels (ops.map fun p => GLine.ins p.1 p.2) = [] := by
  induction ops with
  | nil => rfl
  | cons _ _ ih => exact ih
@[simp] theorem targets_insLines (ops : List (Mn × Option Atom)) : targets (ops.map fun p => GLine.ins p.1 p.2) = [] := by
  induction ops with
  | nil => rfl
  | cons _ _ ih => exact ih

theorem labels_loadRef (ref : LV) : labels (loadRef ref) = [] := rfl

theorem branchInstr_tidy (g : GState) (op : COp) (label : Lbl) : Tidy g (branchInstr g op label) [label] := by
  cases op
  case gt =>
    -- `BEQ .ifhere ; BCS label`, then `.ifhere:`, the construct's own
    exact .frame (ks := [.ifhere]) (bump_cIf g) (by decide) (by decide)
      (.leaf (r := ([.br .BEQ ⟨.ifhere, g.cIf + 1⟩, .br .BCS label], _)) (Mono.refl _) rfl fun l h => h)
      ((Glued.nil.part _).glueLabel _) (by simp +contextual [GState.next, LKind.ctr, GState.ctr])
  all_goals exact .leaf (Mono.refl g) rfl (by simp [branchInstr])

theorem testCode_tidy (ops : List (Mn × Option Atom)) (g : GState) (x : Option FRef) (op : COp) (label : Lbl) :
    Tidy g (testCode ops { g with flags := x } op label) [label] :=
  (Tidy.leaf (e := []) (Mono.refl g) (labels_insLines ops) (by simp)).append ((Tidy.flags_left x).mp (branchInstr_tidy ..))

theorem zeroTest_tidy (g : GState) (v : LV) (op : COp) (label : Lbl) : Tidy g (zeroTest g v op label) [label] := by
  rw [zeroTest_eq]
  split
  · exact .nil (Mono.refl g)
  · split
    · exact testCode_tidy [] g g.flags op label
    · exact testCode_tidy ..

theorem cmpTest_tidy (g : GState) (v : LV) (right : Atom) (op : COp) (label : Lbl) :
    Tidy g (cmpTest g v right op label) [label] := by
  rw [cmpTest_eq]; exact testCode_tidy ..

theorem genCondEx_tidy (g : GState) (l r : RA) (op : COp) (negate : Bool) (label : Lbl) :
    Tidy g (genCondEx g l r op negate label) [label] := by
  have test (c : Bool) (v : LV) (right : Atom) (op' : COp) :
      Tidy g (if c then zeroTest g v op' label else cmpTest g v right op' label) [label] := by
    cases c
    · exact cmpTest_tidy ..
    · exact zeroTest_tidy ..
  unfold genCondEx
  split
  -- the arms without code (two constants, a register on the right, two registers); every other arm is one of the two tests
  case h_1 | h_4 | h_7 => exact .nil (Mono.refl g)
  all_goals exact test ..

theorem cmpETest_tidy (g : GState) (op : COp) (e : GExpr) (b : Atom) (eLeft negate : Bool) (label : Lbl) :
    Tidy g (cmpETest g op e b eLeft negate label) [label] := by
  rw [cmpETest_eq]
  split
  · exact .nil (Mono.refl g)
  · exact testCode_tidy ..

theorem cmpRTest_tidy (g : GState) (op : COp) (e : GExpr) (y eLeft negate : Bool) (label : Lbl) :
    Tidy g (cmpRTest g op e y eLeft negate label) [label] := by
  rw [cmpRTest_eq]; exact testCode_tidy ..

theorem truthETest_tidy (g : GState) (e : GExpr) (negate : Bool) (label : Lbl) :
    Tidy g (truthETest g e negate label) [label] := by
  rw [truthETest_eq]; exact testCode_tidy ..

theorem wcmpTest_tidy (g : GState) (ne : Bool) (s : String) (w : WA) (negate : Bool) (label : Lbl) :
    Tidy g (wcmpTest g ne s w negate label) [label] := by
  rw [wcmpTest_eq]
  split
  · exact ((testCode_tidy (wcmpPre s w) g none .ne label).append (testCode_tidy _ _ none .ne label)).weaken (by simp)
  · exact .skipOver (testCode_tidy ..) (testCode_tidy _ _ none .eq label)

theorem genCond_tidy (c : Cond) : ∀ (g : GState) (negate : Bool) (label : Lbl),
    Tidy g (genCond g c negate label) [label] := by
  induction c with
  | cmp op a b => exact fun g negate label => genCondEx_tidy ..
  | truth v => exact fun g negate label => zeroTest_tidy ..
  | nottruth v => exact fun g negate label => zeroTest_tidy ..
  | not c ih => exact fun g negate label => ih ..
  | cmpE op e b eLeft => exact fun g negate label => cmpETest_tidy ..
  | truthE e => exact fun g negate label => truthETest_tidy ..
  | cmpR op e y eLeft => exact fun g negate label => cmpRTest_tidy ..
  | wcmp ne s w => exact fun g negate label => wcmpTest_tidy ..
  | and a b iha ihb =>
    intro g negate label
    cases negate with
    | true => exact ((iha g true label).append (ihb _ true label)).weaken (by simp)
    | false => exact .skipOver (iha ..) (ihb ..)
  | or a b iha ihb =>
    intro g negate label
    cases negate with
    | false => exact ((iha g false label).append (ihb _ false label)).weaken (by simp)
    | true => exact .skipOver (iha ..) (ihb ..)

/-- the labels a statement may jump to outside its own code: the break label of the enclosing loop, and its
    continue label when the statement contains a `continue` of that loop -/
def extTargets (lp : LoopCtx) (needC : Bool) : List Lbl :=
  match lp with
  | none => []
  | some (cl, bl) => bl :: (if needC then [cl] else [])

@[simp] theorem mem_extTargets_some {cl bl l : Lbl} {c : Bool} :
    l ∈ extTargets (some (cl, bl)) c ↔ l = bl ∨ (c = true ∧ l = cl) := by
  cases c <;> simp [extTargets]

@[simp] theorem mem_extTargets_or {lp : LoopCtx} {a b : Bool} {l : Lbl} :
    l ∈ extTargets lp (a || b) ↔ l ∈ extTargets lp a ∨ l ∈ extTargets lp b := by
  rcases lp with _ | ⟨cl, bl⟩ <;> cases a <;> cases b <;> simp +contextual [extTargets]

theorem genFlat_tidy (g : GState) (s : RStmt) : Tidy g (genFlat g s) [] :=
  .leaf (by simp [genFlat, Mono]) (by simp [genFlat, flatLines]) (by simp [genFlat, flatLines])

attribute [local simp] GState.next LKind.ctr GState.ctr in
/-- Each construct is a `frame`. The shape of its code is read off `gen` by unification with the `Glued` term (`simp only
    [gen]` would first prove the equations of `gen`, which costs more than the rest of the proof); the comment of each
    case lists the pieces in the order of that term, and says why every label a piece was given is one of the
    construct's own or one the construct itself was given (the last argument of `frame`: `simp` checks the memberships). -/
theorem gen_tidy (st : SStmt) : ∀ (lp : LoopCtx) (g : GState), Tidy g (gen lp g st) (extTargets lp (contHere st)) := by
  induction st with
  | flat s => exact fun lp g => (genFlat_tidy g s).weaken fun _ h => nomatch h
  | skip => exact fun lp g => .nil (Mono.refl g)
  | forget => exact fun lp g => .nil fun c => Nat.le_of_eq (ctr_flags g none c).symm
  | brk => exact fun lp g => match lp with
    | none => .nil (Mono.refl g)
    | some (cl, bl) => .leaf (Mono.refl g) rfl fun _ h => h
  | cont => exact fun lp g => match lp with
    | none => .nil (Mono.refl g)
    | some (cl, bl) => .leaf (Mono.refl g) rfl fun _ h => List.mem_cons_of_mem _ h
  | ifBrk c => exact fun lp g => match lp with
    | none => .nil (bump_cIf g).mono
    | some (cl, bl) => ((genCond_tidy c _ false bl).rebase (bump_cIf g).mono).weaken fun _ h => h
  | ifCont c => exact fun lp g => match lp with
    | none => .nil (bump_cIf g).mono
    | some (cl, bl) => ((genCond_tidy c _ false cl).rebase (bump_cIf g).mono).weaken fun _ h => List.mem_cons_of_mem _ h
  | seq a b iha ihb =>
    intro lp g
    exact ((iha lp g).append (ihb lp _)).weaken (e' := extTargets lp (contHere a || contHere b)) (by simp)
  | ifThen c t iht =>
    intro lp g
    -- test, then-part, `.ifend:`; the test jumps to `.ifend` (own), the then-part was given the enclosing loop's labels
    exact .frame (ks := [.ifend]) (e' := extTargets lp (contHere t)) (bump_cIf g) (by decide) (by decide)
      ((genCond_tidy c _ true _).append (iht lp _)) (((Glued.nil.part _).part _).glueLabel _) (by simp)
  | ifElse c t e iht ihe =>
    intro lp g
    -- test, then-part, `JMP .ifend ; .else:`, else-part, `.ifend:`; the test jumps to `.else` (own)
    exact .frame (ks := [.else_, .ifend]) (e' := extTargets lp (contHere t || contHere e)) (bump_cIf g)
      (by decide) (by decide)
      (((genCond_tidy c _ true _).append (iht lp _)).append ((Tidy.flags_left _).mp (ihe lp _)))
      (((((Glued.nil.part _).part _).glue [.jmp _, .lab _] (by simp)).part _).glueLabel _) (by simp +contextual [or_imp])
  | «while» c b ihb =>
    intro lp g
    -- `.while:`, test, body, `JMP .while ; .whileend:`; the test jumps to `.whileend`, a `break` / `continue` of the body to
    -- `.whileend` / `.while`: all own
    exact .frame (ks := [.while_, .whileend]) (bump_cWhile g none) (by decide) (by decide)
      ((genCond_tidy c _ true _).append (ihb _ _))
      ((((Glued.nil.glueLabel _).part _).part _).glue [.jmp _, .lab _] (by simp)) (by simp +contextual [or_imp])
  | doWhile b c ihb =>
    intro lp g
    -- `.dowhile:`, body, [`.dowhilecondition:`], test, `.dowhileend:`; the test jumps back to `.dowhile`, a `break` of the
    -- body to `.dowhileend`: own. `.dowhilecondition` exists, and is the body's to jump to, only when the body has a
    -- `continue`.
    show Tidy g ([.lab _] ++ _ ++ (if contHere b then [.lab _] else []) ++ _ ++ [.lab _], _) _
    have hb := ihb (some (⟨.dowhilecondition, g.cWhile + 1⟩, ⟨.dowhileend, g.cWhile + 1⟩)) { g with cWhile := g.cWhile + 1, flags := none }
    cases hcb : contHere b <;> rw [hcb] at hb <;> simp only [if_true, if_false, Bool.false_eq_true, List.append_nil]
    · exact .frame (ks := [.dowhile, .dowhileend]) (bump_cWhile g none) (by decide) (by decide)
        (hb.append (genCond_tidy c _ false _))
        ((((Glued.nil.glueLabel _).part _).part _).glueLabel _) (by simp +contextual [or_imp])
    · exact .frame (ks := [.dowhile, .dowhilecondition, .dowhileend]) (bump_cWhile g none) (by decide) (by decide)
        (hb.append ((Tidy.flags_left none).mp (genCond_tidy c _ false _)))
        (((((Glued.nil.glueLabel _).part _).glueLabel _).part _).glueLabel _)
        (by simp +contextual [or_imp])
  | «for» i c u b ihb =>
    intro lp g
    -- initialisation, first test, `.for:`, body, `.forupdate:`, update, second test, `.forend:`; the first test jumps to
    -- `.forend`, the second back to `.for`, a `break` / `continue` of the body to `.forend` / `.forupdate`: all own
    exact .frame (ks := [.for_, .forupdate, .forend]) (bump_cFor g) (by decide) (by decide)
      (((((genFlat_tidy _ i).append (genCond_tidy c _ true _)).append ((Tidy.flags_left none).mp (ihb _ _))).append
        ((Tidy.flags_left none).mp (genFlat_tidy _ u))).append (genCond_tidy c _ false _))
      ((((((((Glued.nil.part _).part _).glueLabel _).part _).glueLabel _).part _).part _).glueLabel _)
      (by simp +contextual [or_imp])

end CV.GenStruct
