/-
  What `optimize` (CV.Opt) keeps of the code it is given (`OptInv`): every step only overwrites instructions that
  are not `Kept` by lines that are not (`marked_notKept`, `OptInv.set`).
-/
import CV.Opt
namespace CV

/-- lines the optimiser never touches: inline assembly and protected instructions, except protected compares
    (compare folding removes them without a `protected` test) and the `LDA` / `CLC` / `SEC` the swap rule exchanges -/
def Kept : Line → Bool
  | .inline _ _ => true
  | .instr i => i.prot && !(i.mn == .CMP || i.mn == .CPX || i.mn == .CPY || i.mn == .LDA || i.mn == .CLC || i.mn == .SEC)
  | _ => false

/-- labels, inline assembly, comments and dummies -/
def NonInstr : Line → Bool
  | .instr _ => false
  | _ => true

theorem filter_set_of_not (p : Line → Bool) :
    ∀ (l : List Line) (i : Nat) (y x : Line), l[i]? = some y → p y = false → p x = false →
      (l.set i x).filter p = l.filter p := by
  intro l
  induction l with
  | nil => intro i y x h; simp at h
  | cons a as ih =>
    intro i y x h hy hx
    cases i with
    | zero =>
      simp at h; subst h
      simp [List.filter, hy, hx]
    | succ i =>
      simp at h
      simp [List.filter, ih i y x h hy hx]

/-- `c`: the code the optimiser was given; `l`: what it has made of it so far -/
structure OptInv (c l : Code) : Prop where
  size : l.length = c.length
  kept : l.filter Kept = c.filter Kept
  fixed : ∀ (i : Nat) (x : Line), c[i]? = some x → NonInstr x = true → l[i]? = some x

theorem OptInv.refl (c : Code) : OptInv c c := { size := rfl, kept := rfl, fixed := fun _ _ h _ => h }

theorem OptInv.set {c : Code} {code : Array Line} (h : OptInv c code.toList) (i : Nat) (ins : Instr) (x : Line)
    (hi : code[i]? = some (.instr ins)) (hk : Kept (.instr ins) = false) (hx : Kept x = false) :
    OptInv c (code.setIfInBounds i x).toList := by
  rw [← Array.getElem?_toList] at hi
  rw [Array.toList_setIfInBounds]
  refine { size := by rw [List.length_set, h.size], kept := ?_, fixed := fun k l hc hn => ?_ }
  · rw [filter_set_of_not Kept code.toList i (.instr ins) x hi hk hx, h.kept]
  · have hk' := h.fixed k l hc hn
    rw [List.getElem?_set_ne, hk']
    rintro rfl
    cases hi.symm.trans hk'
    cases hn

theorem instrAt_some {code : Array Line} {i : Nat} {ins : Instr} (h : instrAt code i = some ins) :
    code[i]? = some (.instr ins) := by
  unfold instrAt at h
  split at h
  · cases h; assumption
  · cases h

theorem kept_of_unprot (i : Instr) (h : i.prot = false) : Kept (.instr i) = false := by
  simp [Kept, h]

theorem foldCmp_requires (r : Option String) (m : Mn) (i1 i2 : Instr) (h : foldCmp r m i1 i2 = true) :
    i1.mn = m ∧ i2.prot = false := by
  unfold foldCmp at h
  cases r with
  | none => simp at h
  | some r =>
    simp only at h
    split at h
    · rename_i hc
      simp only [Bool.and_eq_true, beq_iff_eq] at hc
      refine ⟨hc.1.2, ?_⟩
      cases hp : i2.prot with
      | false => rfl
      | true => split at h <;> simp [hp] at h
    · simp at h

/-- `remove_second` is `false` everywhere but at the three loads, and there `!ins.prot` under conditions -/
theorem updateKnowledge_keeps_prot (code : Array Line) (it : Nat) (ins : Instr) (a x y : Option String) (f : OFlags)
    (hp : ins.prot = true) : (updateKnowledge code it ins a x y f).2.2.2.2 = false := by
  unfold updateKnowledge
  split <;> try rfl
  all_goals
    simp only [hp, Bool.not_true, ite_self]
    split <;> rfl

theorem settleSecond_code (s : OptSt) (fuel : Nat) (s' : OptSt) (h : settleSecond s fuel = some s') :
    s'.code = s.code := by
  -- the cases of `settleSecond` with an answer: 3 the state as it is (`second` is at an instruction); 5, 8 a restart
  -- behind a label or an inline line, 10 `second` moved on: recursive calls with the same `code`. The others: `none`.
  fun_induction settleSecond s fuel
  case case3 => cases h; rfl
  case case5 ih | case8 ih | case10 ih => exact ih h
  all_goals cases h

def OutcomeInv (c : Code) : Outcome → Prop
  | .done s => OptInv c s.code.toList
  | .cont s => OptInv c s.code.toList

theorem jmpStage_inv (c : Code) (s : OptSt) (h : OptInv c s.code.toList) :
    match jmpStage s with
    | .error s' => OptInv c s'.code.toList
    | .ok s' => OptInv c s'.code.toList := by
  unfold jmpStage
  cases hi : instrAt s.code s.first with
  | none => simpa using h
  | some i1 =>
    cases hs : s.second with
    | none => simpa using h
    | some j =>
      cases hl : s.code[j]? with
      | none => simp only [hl]; exact h
      | some line =>
        cases line with
        | label l =>
          by_cases hc : (i1.mn == .JMP && i1.opd == l && !i1.prot) = true
          · have hp : i1.prot = false := by
              simp only [Bool.and_eq_true, Bool.not_eq_true'] at hc
              exact hc.2
            have hI := OptInv.set h s.first i1 .dummy (instrAt_some hi) (kept_of_unprot _ hp) rfl
            simp only [hl, hc, if_true]
            cases seekInstr (s.code.setIfInBounds s.first Line.dummy) s.it <;> exact hI
          · simp only [hl, hc]
            exact h
        | _ => simp only [hl]; exact h

theorem knowStage_code (s : OptSt) (i2 : Instr) (d : PairDecision) :
    (knowStage s i2 d).1.code = s.code ∧ (knowStage s i2 d).1.first = s.first := by
  unfold knowStage; split <;> simp

/-- the lines `applyStage` overwrites — those the decision `d` marks by `swap`, `both`, `first` or the second-line flag of
    `knowStage` — are not `Kept`: `pairRules` marks a line only if it is unprotected or one of the foldable compares -/
theorem marked_notKept (s : OptSt) (i1 i2 : Instr) (d : PairDecision) (hd : d = pairRules i1 i2 s.acc s.xr s.yr s.flags) :
    ((d.swap || d.both || d.first) = true → Kept (.instr i1) = false) ∧
    ((d.swap || d.both || (knowStage s i2 d).2) = true → Kept (.instr i2) = false) := by
  subst hd
  constructor
  · intro h
    cases hp : i1.prot with
    | false => exact kept_of_unprot _ hp
    | true =>
      -- with `i1.prot = true` every rule that tests `!i1.prot` drops out of `pairRules`: the exchange is left (`i1` is
      -- the `LDA`) and compare folding on A, X, Y (`i1` is the compare): the mnemonics `Kept` leaves out
      simp only [pairRules, hp, Bool.not_true, Bool.and_false, Bool.false_and, Bool.or_false, Bool.false_or,
        Bool.or_eq_true, Bool.and_eq_true, beq_iff_eq] at h
      rcases h with ⟨e, _⟩ | (h | h) | h
      · simp [Kept, e]
      · simp [Kept, (foldCmp_requires _ _ _ _ h).1]
      · simp [Kept, (foldCmp_requires _ _ _ _ h).1]
      · simp [Kept, (foldCmp_requires _ _ _ _ h).1]
  · intro h
    cases hp : i2.prot with
    | false => exact kept_of_unprot _ hp
    | true =>
      -- with `i2.prot = true` compare folding does not fire, `remove_second` stays `false`, and of `pairRules`
      -- the exchange alone is left: `i2` is a `SEC` or a `CLC`
      have hf : ∀ r m, foldCmp r m i1 i2 = false := fun r m => by
        cases hc : foldCmp r m i1 i2 with
        | false => rfl
        | true => rw [(foldCmp_requires _ _ _ _ hc).2] at hp; cases hp
      have hu := updateKnowledge_keeps_prot s.code s.it i2 s.acc s.xr s.yr s.flags hp
      simp only [knowStage, pairRules, hp, hf, hu, Bool.not_true, Bool.and_false, Bool.or_false, Bool.not_false,
        Bool.and_self, if_true, Bool.or_eq_true, Bool.and_eq_true, beq_iff_eq] at h
      rcases h with ⟨_, e | e⟩ <;> simp [Kept, e]

theorem applyStage_inv (c : Code) (s : OptSt) (i1 i2 : Instr) (j : Nat) (d : PairDecision) (rs : Bool)
    (h : OptInv c s.code.toList) (h1 : s.code[s.first]? = some (.instr i1)) (h2 : s.code[j]? = some (.instr i2))
    (hne : s.first ≠ j)
    (hk1 : (d.swap || d.both || d.first) = true → Kept (.instr i1) = false)
    (hk2 : (d.swap || d.both || rs) = true → Kept (.instr i2) = false) :
    OutcomeInv c (applyStage s i1 i2 j d rs) := by
  unfold applyStage
  by_cases hs : d.swap = true
  · rw [if_pos hs]
    have k1 := hk1 (by simp [hs])
    have k2 := hk2 (by simp [hs])
    have hA := OptInv.set h s.first i1 (.instr i2) h1 k1 k2
    have h2' : (s.code.setIfInBounds s.first (.instr i2))[j]? = some (.instr i2) := by
      rw [Array.getElem?_setIfInBounds_ne hne]; exact h2
    exact OptInv.set hA j i2 (.instr i1) h2' k2 k1
  · rw [if_neg hs]
    by_cases hb : d.both = true
    · rw [if_pos hb]
      have k1 := hk1 (by simp [hb])
      have k2 := hk2 (by simp [hb])
      have hA := OptInv.set h s.first i1 .dummy h1 k1 rfl
      have h2' : (s.code.setIfInBounds s.first .dummy)[j]? = some (.instr i2) := by
        rw [Array.getElem?_setIfInBounds_ne hne]; exact h2
      have hB := OptInv.set hA j i2 .dummy h2' k2 rfl
      simp only
      cases seekInstr ((s.code.setIfInBounds s.first Line.dummy).setIfInBounds j Line.dummy) s.it with
      | none => exact hB
      | some p =>
        simp only
        cases instrAt ((s.code.setIfInBounds s.first Line.dummy).setIfInBounds j Line.dummy) p.1 with
        | none => exact hB
        | some ins => exact hB
    · rw [if_neg hb]
      by_cases hr : rs = true
      · rw [if_pos hr]
        exact OptInv.set h j i2 .dummy h2 (hk2 (by simp [hr])) rfl
      · rw [if_neg hr]
        by_cases hf : d.first = true
        · rw [if_pos hf]
          exact OptInv.set h s.first i1 .dummy h1 (hk1 (by simp [hf])) rfl
        · rw [if_neg hf]
          exact h

theorem optStep_inv (c : Code) (s : OptSt) (h : OptInv c s.code.toList) : OutcomeInv c (optStep s) := by
  unfold optStep
  have hj := jmpStage_inv c s h
  cases hjs : jmpStage s with
  | error s' => simp only [hjs] at hj ⊢; exact hj
  | ok s1 =>
    simp only [hjs] at hj ⊢
    cases hss : settleSecond s1 (s1.code.size + 2) with
    | none => exact hj
    | some s2 =>
      have hc := settleSecond_code _ _ _ hss
      have h2 : OptInv c s2.code.toList := by rw [hc]; exact hj
      simp only
      cases hsec : s2.second with
      | none => exact h2
      | some j =>
        simp only
        -- the model stops where `first` and `second` coincide (in the Rust code they cannot, being distinct `&mut`
        -- borrows): so no invariant about the two positions is needed
        by_cases hne : s2.first = j
        · rw [if_pos hne]; exact h2
        · rw [if_neg hne]
          cases hi1 : instrAt s2.code s2.first with
          | none => exact h2
          | some i1 =>
            cases hi2 : instrAt s2.code j with
            | none => exact h2
            | some i2 =>
              simp only
              have kc := knowStage_code s2 i2 (pairRules i1 i2 s2.acc s2.xr s2.yr s2.flags)
              apply applyStage_inv
              · rw [kc.1]; exact h2
              · rw [kc.1, kc.2]; exact instrAt_some hi1
              · rw [kc.1]; exact instrAt_some hi2
              · rw [kc.2]; exact hne
              · exact (marked_notKept s2 i1 i2 _ rfl).1
              · exact (marked_notKept s2 i1 i2 _ rfl).2

theorem optLoop_inv (c : Code) : ∀ (fuel : Nat) (s : OptSt), OptInv c s.code.toList → OptInv c (optLoop fuel s).code.toList := by
  intro fuel
  induction fuel with
  | zero => intro s h; exact h
  | succ n ih =>
    intro s h
    have := optStep_inv c s h
    unfold optLoop
    cases ho : optStep s with
    | done s' => simp only [ho, OutcomeInv] at this ⊢; exact this
    | cont s' => simp only [ho, OutcomeInv] at this ⊢; exact ih s' this

theorem optimize_inv (c : Code) : OptInv c (optimize c).1 := by
  simp only [optimize]
  cases seekInstr c.toArray 0 with
  | none => exact OptInv.refl c
  | some p =>
    simp only
    cases instrAt c.toArray p.1 with
    | none => exact OptInv.refl c
    | some ins =>
      simp
      exact optLoop_inv c _ _ (OptInv.refl c)

end CV
