/-
  The shape of condition code: every single test the generator emits is straight-line code that sets the flags,
  followed by the branches `branchInstr` chooses for the operator (`testCode`). Each test has one equation saying which
  straight-line code and which operator; the label discipline and the run of the code are proved about `testCode` once.
-/
import CV.GenStruct
namespace CV.GenStruct
open CV.GenFlat CV.GenReg

theorem finalOp_ordered (op : COp) (negate switch : Bool) : (finalOp op negate switch).ordered = op.ordered := by
  cases op <;> cases negate <;> cases switch <;> rfl

theorem COp.eq_or_ne_of_unordered {op : COp} (h : op.ordered = false) : op = .eq ∨ op = .ne := by
  cases op <;> first | exact .inl rfl | exact .inr rfl | cases h

/-- a single test: the straight-line code `ops`, which sets the flags, then the branches to `label` that `branchInstr`
    chooses for `op`. `g` is the generator state after `ops`: its `flags` is the belief the straight-line part leaves
    (`test_runs` asks `ops` to establish it), and `branchInstr` may allocate a label from it -/
def testCode (ops : List (Mn × Option Atom)) (g : GState) (op : COp) (label : Lbl) : List GLine × GState :=
  (ops.map (fun q => GLine.ins q.1 q.2) ++ (branchInstr g op label).1, (branchInstr g op label).2)

theorem zeroTest_eq (g : GState) (ref : LV) (op : COp) (label : Lbl) :
    zeroTest g ref op label =
      if op.ordered then ([], g)
      else if g.flags = some ref then testCode [] g op label
      else testCode [(loadRefMn ref, some (loadRefOp ref))] { g with flags := some ref } op label := by
  cases op <;> by_cases h : g.flags = some ref <;> simp [zeroTest, h, testCode, branchInstr, loadRef, COp.ordered]

/-- `cmpPre` as (mnemonic, operand) pairs: the register's own compare where it can address the operand, through A
    otherwise -/
def cmpOps (left : LV) (right : Atom) : List (Mn × Option Atom) :=
  if left.ra.isReg && !RA.isRegEl (.of right) then [(cmpMn left, some right)]
  else loadA none some left.ra ++ [(.CMP, some right)]

theorem cmpPre_eq (left : LV) (right : Atom) : cmpPre left right = (cmpOps left right).map fun p => GLine.ins p.1 p.2 := by
  cases left with
  | var _ | el _ _ => rfl
  | x | y => rcases right with _ | _ | ⟨_, _ | _ | _⟩ <;> rfl

theorem cmpTest_eq (g : GState) (left : LV) (right : Atom) (op : COp) (label : Lbl) :
    cmpTest g left right op label = testCode (cmpOps left right) { g with flags := none } op label := by
  rw [cmpTest, cmpPre_eq]; rfl

/-- the operands as `generate_condition_ex` orders them; `sw`: they were exchanged -/
theorem orient_spec (l r : RA) (hcc : (l.isConst && r.isConst) = false) (hrr : (l.isReg && r.isReg) = false) :
    ∃ (left : LV) (right : Atom) (sw : Bool), orient l r = (left.ra, .of right, sw) ∧
      left.ra = (if sw then r else l) ∧ RA.of right = (if sw then l else r) := by
  cases l with
  | x => cases r with
    | of right => exact ⟨.x, right, false, rfl, rfl, rfl⟩
    | _ => cases hrr
  | y => cases r with
    | of right => exact ⟨.y, right, false, rfl, rfl, rfl⟩
    | _ => cases hrr
  | of la =>
    cases la with
    | const n => cases r with
      | x => exact ⟨.x, .const n, true, rfl, rfl, rfl⟩
      | y => exact ⟨.y, .const n, true, rfl, rfl, rfl⟩
      | of ra => cases ra with
        | const k => cases hcc
        | var w => exact ⟨.var w, .const n, true, rfl, rfl, rfl⟩
        | el t i => exact ⟨.el t i, .const n, true, rfl, rfl, rfl⟩
    | var v => cases r with
      | x => exact ⟨.x, .var v, true, rfl, rfl, rfl⟩
      | y => exact ⟨.y, .var v, true, rfl, rfl, rfl⟩
      | of right => exact ⟨.var v, right, false, rfl, rfl, rfl⟩
    | el t i => cases r with
      | x => exact ⟨.x, .el t i, true, rfl, rfl, rfl⟩
      | y => exact ⟨.y, .el t i, true, rfl, rfl, rfl⟩
      | of right => exact ⟨.el t i, right, false, rfl, rfl, rfl⟩

theorem genCondEx_eq (g : GState) (l r : RA) (op : COp) (negate : Bool) (label : Lbl) (left : LV) (right : Atom) (sw : Bool)
    (h : orient l r = (left.ra, .of right, sw)) :
    genCondEx g l r op negate label =
      if (RA.isZero (.of right) && (!left.ra.isReg || g.flags == some left)) = true
      then zeroTest g left (finalOp op negate sw) label else cmpTest g left right (finalOp op negate sw) label := by
  unfold genCondEx
  rw [h]
  cases left <;> simp [LV.ra, RA.isReg]

theorem cmpETest_eq (g : GState) (op : COp) (e : GExpr) (b : Atom) (eLeft negate : Bool) (label : Lbl) :
    cmpETest g op e b eLeft negate label =
      if (op.ordered && RA.isZero (.of b)) = true then ([], g)
      else testCode (treeOps e ++ if RA.isZero (.of b) then [] else [(.CMP, some b)]) { g with flags := none }
        (finalOp op negate (!eLeft)) label := by
  cases hzb : RA.isZero (.of b)
  · simp [cmpETest, hzb, testCode, treeLines]
  · have ho := finalOp_ordered op negate (!eLeft)
    cases hord : op.ordered <;> rw [hord] at ho <;>
      simp only [cmpETest, hzb, if_true, Bool.and_true, Bool.false_eq_true, if_false]
    · rcases COp.eq_or_ne_of_unordered ho with h | h <;> simp [h, testCode, branchInstr, treeLines]
    · generalize finalOp op negate (!eLeft) = f at ho ⊢
      cases f <;> first | rfl | cases ho

theorem truthETest_eq (g : GState) (e : GExpr) (negate : Bool) (label : Lbl) :
    truthETest g e negate label =
      testCode (treeOps e ++ if e.topArithm then [] else [(.CMP, some (.const 0))]) { g with flags := none }
        (finalOp .ne negate false) label := by
  cases negate <;> cases h : e.topArithm <;> simp [truthETest, h, testCode, treeLines, finalOp, COp.negate, branchInstr]

theorem cmpRTest_eq (g : GState) (op : COp) (e : GExpr) (y eLeft negate : Bool) (label : Lbl) :
    cmpRTest g op e y eLeft negate label =
      testCode (treeOps e ++ [(.STA, some tmp), (if y then .CPY else .CPX, some tmp)]) { g with flags := none }
        (finalOp op negate eLeft) label := by
  simp [cmpRTest, testCode, treeLines]

/-- the 16-bit (in)equality is two tests against zero in a row, of the high difference (in A after the passes) and of
    the low one (`LDA cctmp`): both jump on "different"; to jump on "equal" the first jumps over the second -/
theorem wcmpTest_eq (g : GState) (ne : Bool) (s : String) (w : WA) (negate : Bool) (label : Lbl) :
    wcmpTest g ne s w negate label =
      if (ne != negate) = true then
        ((testCode (wcmpPre s w) { g with flags := none } .ne label).1 ++
           (testCode [(.LDA, some tmp)] { g with flags := none } .ne label).1,
         { g with flags := none })
      else
        ((testCode (wcmpPre s w) { g with cIf := g.cIf + 1, flags := none } .ne ⟨.ifstart, g.cIf⟩).1 ++
           (testCode [(.LDA, some tmp)] { g with cIf := g.cIf + 1, flags := none } .eq label).1 ++ [.lab ⟨.ifstart, g.cIf⟩],
         { g with cIf := g.cIf + 1, flags := none }) := by
  unfold wcmpTest
  split <;> simp [testCode, branchInstr]

end CV.GenStruct
