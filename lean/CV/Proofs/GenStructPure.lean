/-
  The reading without scratch cell, its definitions. `pureSpec`, `evalCondP` and `semPure` are CV.GenReg.rspec and
  CV.GenStruct.sem without the writes to the compiler's cells (`cctmp`, the stack page); the value of a tree is `pureE` in an
  assignment, in a condition still `treeVal`, the accumulator after the tree's code. The two readings agree up to `EqOff` on
  layouts that meet `NoTmp`: CV.Proofs.GenRegPure for straight-line statements, CV.Proofs.GenStructPureSim for the rest.
-/
import CV.Proofs.GenWord
import CV.GenStruct
set_option linter.constructorNameAsVariable false
namespace CV.GenStruct
open CV.GenFlat CV.GenReg

/-- `a` is an address of the stack page, where `PHA` writes -/
def InStack (a : Word) : Prop := ∃ b : Byte, a = Cpu.stackAddr b

/-- the cells the generated code uses for itself: the scratch cell `cctmp` and the stack page (`PHA` spills) -/
def Scratch (L : Layout) (a : Word) : Prop := a = L "cctmp" ∨ InStack a

/-- equal outside the compiler's cells; SP is not compared -/
def EqOff (L : Layout) (σ τ : SrcSt) : Prop :=
  σ.x = τ.x ∧ σ.y = τ.y ∧ ∀ a, ¬ Scratch L a → σ.mem.read a = τ.mem.read a

theorem EqOff.x_eq {L : Layout} {σ τ : SrcSt} (h : EqOff L σ τ) : σ.x = τ.x := h.1
theorem EqOff.y_eq {L : Layout} {σ τ : SrcSt} (h : EqOff L σ τ) : σ.y = τ.y := h.2.1
theorem EqOff.read_eq {L : Layout} {σ τ : SrcSt} (h : EqOff L σ τ) {a : Word} (ha : ¬ Scratch L a) :
    σ.mem.read a = τ.mem.read a := h.2.2 a ha

theorem EqOff.refl (L : Layout) (σ : SrcSt) : EqOff L σ σ := ⟨rfl, rfl, fun _ _ => rfl⟩
theorem EqOff.symm {L : Layout} {σ τ : SrcSt} (h : EqOff L σ τ) : EqOff L τ σ :=
  ⟨h.1.symm, h.2.1.symm, fun a ha => (h.2.2 a ha).symm⟩
theorem EqOff.trans {L : Layout} {σ τ υ : SrcSt} (h1 : EqOff L σ τ) (h2 : EqOff L τ υ) : EqOff L σ υ :=
  ⟨h1.1.trans h2.1, h1.2.1.trans h2.2.1, fun a ha => (h1.2.2 a ha).trans (h2.2.2 a ha)⟩

/-- the memory operands (variables and array elements) something mentions -/
def _root_.CV.GenFlat.Atom.names : Atom → List Atom
  | .const _ => []
  | .var v => [.var v]
  | .el t i => [.el t i]

def _root_.CV.GenReg.RA.names : RA → List Atom
  | .of a => Atom.names a
  | _ => []

def _root_.CV.GenReg.LV.names : LV → List Atom
  | .var v => [.var v]
  | .el t i => [.el t i]
  | _ => []

def lexprNames : LExpr → List Atom
  | .pair a _ b => a.names ++ b.names
  | .left e _ y => lexprNames e ++ y.names
  | .right x _ e => x.names ++ lexprNames e

def gexprNames : GExpr → List Atom
  | .atom a => a.names
  | .bin l _ r => gexprNames l ++ gexprNames r
  | .sh e _ _ => gexprNames e

def _root_.CV.GenReg.RStmt.names : RStmt → List Atom
  | .expr v e => v.names ++ gexprNames e
  | .lin v e => v.names ++ lexprNames e
  | .asg v a => v.names ++ a.names
  | .bin v _ a b => v.names ++ a.names ++ b.names
  | .opasg v _ a => v.names ++ a.names
  | .inc v | .dec v => v.names
  | .chain v a _ b1 ops => v.names ++ a.names ++ b1.names ++ ops.flatMap fun p => p.2.names
  | .asgW s a => [.var s, .el s (.k 1)] ++ a.lo.names ++ a.hi.names
  | .binW s _ a b => [.var s, .el s (.k 1)] ++ a.lo.names ++ a.hi.names ++ b.lo.names ++ b.hi.names
  | .opasgW s _ a => [.var s, .el s (.k 1)] ++ a.lo.names ++ a.hi.names

def Cond.names : Cond → List Atom
  | .cmp _ a b => a.names ++ b.names
  | .truth v | .nottruth v => v.names
  | .and a b | .or a b => Cond.names a ++ Cond.names b
  | .not c => Cond.names c
  | .cmpE _ e b _ => gexprNames e ++ b.names
  | .truthE e => gexprNames e
  | .cmpR _ e _ _ => gexprNames e
  | .wcmp _ s w => [.var s, .el s (.k 1)] ++ w.lo.names ++ w.hi.names

def SStmt.names : SStmt → List Atom
  | .flat s => s.names
  | .skip => []
  | .forget => []
  | .seq a b => SStmt.names a ++ SStmt.names b
  | .ifThen c t => c.names ++ SStmt.names t
  | .ifElse c t e => c.names ++ SStmt.names t ++ SStmt.names e
  | .while c b => c.names ++ SStmt.names b
  | .doWhile b c => SStmt.names b ++ c.names
  | .for i c u b => i.names ++ c.names ++ u.names ++ SStmt.names b
  | .brk | .cont => []
  | .ifBrk c | .ifCont c => c.names

/-- the cells an operand can denote are none of the compiler's; for an element subscripted by a register: whatever the
    register holds (true of every layout that places `cctmp` below the arrays) -/
def CellOK (L : Layout) : Atom → Prop
  | .const _ => True
  | .var v => ¬ Scratch L (L v)
  | .el t (.k n) => ¬ Scratch L (L t + BitVec.ofNat 16 n)
  | .el t _ => ∀ b : Byte, ¬ Scratch L (L t + b.zeroExtend 16)

/-- the condition on the layout under which the plain reading applies to a program with the memory operands `ns` -/
def NoTmp (L : Layout) (ns : List Atom) : Prop := ¬ InStack (L "cctmp") ∧ ∀ a ∈ ns, CellOK L a

theorem NoTmp.append {L : Layout} {a b : List Atom} : NoTmp L (a ++ b) ↔ NoTmp L a ∧ NoTmp L b := by
  simp only [NoTmp, List.mem_append]
  exact ⟨fun h => ⟨⟨h.1, fun v hv => h.2 v (.inl hv)⟩, h.1, fun v hv => h.2 v (.inr hv)⟩,
    fun h => ⟨h.1.1, fun v hv => hv.elim (h.1.2 v) (h.2.2 v)⟩⟩

theorem NoTmp.of_append_left {L : Layout} {a b : List Atom} (h : NoTmp L (a ++ b)) : NoTmp L a := (NoTmp.append.mp h).1
theorem NoTmp.of_append_right {L : Layout} {a b : List Atom} (h : NoTmp L (a ++ b)) : NoTmp L b := (NoTmp.append.mp h).2

theorem NoTmp.tmpOffStack {L : Layout} {ns : List Atom} (h : NoTmp L ns) : ¬ InStack (L "cctmp") := h.1
theorem NoTmp.cellOK {L : Layout} {ns : List Atom} (h : NoTmp L ns) (a : Atom) (ha : a ∈ ns) : CellOK L a := h.2 a ha

theorem CellOK.hi {L : Layout} {s : String} (h : CellOK L (hiCell s)) : ¬ Scratch L (L s + 1) := h

def binPure (L : Layout) (σ : SrcSt) (v : LV) (op : BOp) (x y : RA) : SrcSt :=
  wr L σ v (op.apply (rval L σ x) (rval L σ y))

def chainPure (L : Layout) (σ : SrcSt) : Byte → List (BOp × RA) → Byte
  | acc, [] => acc
  | acc, (op, y) :: rest => chainPure L σ (op.apply acc (rval L σ y)) rest

def linPure (L : Layout) (σ : SrcSt) : LExpr → Byte
  | .pair a op b => op.apply (rval L σ a) (rval L σ b)
  | .left e op y => op.apply (linPure L σ e) (rval L σ y)
  | .right x op e => op.apply (rval L σ x) (linPure L σ e)

/-- `rspec` without the writes to the compiler's cells (for a tree the generator gives up on, nothing happens, as in
    `rspec`) -/
def pureSpec (L : Layout) (σ : SrcSt) : RStmt → SrcSt
  | .expr v e => if e.ok then wr L σ v (pureE L σ e) else σ
  | .lin v e => wr L σ v (linPure L σ e)
  | .chain v a op1 b1 ops => wr L σ v (chainPure L σ (op1.apply (rval L σ a) (rval L σ b1)) ops)
  | .asg v a => wr L σ v (rval L σ a)
  | .bin v op a b => binPure L σ v op a b
  | .opasg v op a => binPure L σ v op v.ra a
  | .inc v => wr L σ v (rval L σ v.ra + 1)
  | .dec v => wr L σ v (rval L σ v.ra - 1)
  | .asgW s a => asgWSpec L σ s a
  | .binW s op a b => let p := wordered op a b; binWSpec L σ s op p.1 p.2
  | .opasgW s op a => binWSpec L σ s op (.wvar s) a

/-- no state is threaded: `&&` / `||` read the same state. A tree in a condition is valued by `treeVal`, not by `pureE` -/
def evalCondP (L : Layout) (m : SrcSt) : Cond → Bool
  | .cmp op a b => op.eval (rval L m a) (rval L m b)
  | .truth v => rval L m v.ra != 0
  | .nottruth v => rval L m v.ra == 0
  | .and a b => evalCondP L m a && evalCondP L m b
  | .or a b => evalCondP L m a || evalCondP L m b
  | .not c => !evalCondP L m c
  | .cmpE op e b eLeft =>
    if eLeft then op.eval (treeVal L m e) (val L m.mem m.x m.y b) else op.eval (val L m.mem m.x m.y b) (treeVal L m e)
  | .truthE e => treeVal L m e != 0
  | .cmpR op e y eLeft =>
    if eLeft then op.eval (treeVal L m e) (if y then m.y else m.x) else op.eval (if y then m.y else m.x) (treeVal L m e)
  | .wcmp ne s w => if ne then wordAt L m.mem s != wval L m w else wordAt L m.mem s == wval L m w

mutual
/-- `sem` with `pureSpec` for `rspec` and `evalCondP` for `evalCond`, and no effect of conditions -/
def semPure (L : Layout) : Nat → SrcSt → SStmt → Option Out
  | 0, _, _ => none
  | _ + 1, m, .flat s => some (.norm, pureSpec L m s)
  | _ + 1, m, .skip => some (.norm, m)
  | _ + 1, m, .forget => some (.norm, m)
  | _ + 1, m, .brk => some (.brk, m)
  | _ + 1, m, .cont => some (.cont, m)
  | _ + 1, m, .ifBrk c => some (if evalCondP L m c then .brk else .norm, m)
  | _ + 1, m, .ifCont c => some (if evalCondP L m c then .cont else .norm, m)
  | f + 1, m, .seq a b =>
    (match semPure L f m a with
     | some (.norm, m1) => semPure L f m1 b
     | r => r)
  | f + 1, m, .ifThen c t => if evalCondP L m c then semPure L f m t else some (.norm, m)
  | f + 1, m, .ifElse c t e => if evalCondP L m c then semPure L f m t else semPure L f m e
  | f + 1, m, .while c b =>
    if evalCondP L m c then
      (match semPure L f m b with
       | none => none
       | some (.brk, m1) => some (.norm, m1)
       | some (_, m1) => semPure L f m1 (.while c b))
    else some (.norm, m)
  | f + 1, m, .doWhile b c =>
    (match semPure L f m b with
     | none => none
     | some (.brk, m1) => some (.norm, m1)
     | some (_, m1) => if evalCondP L m1 c then semPure L f m1 (.doWhile b c) else some (.norm, m1))
  | f + 1, m, .for i c u b => semPureFor L c u b f (pureSpec L m i)

def semPureFor (L : Layout) (c : Cond) (u : RStmt) (b : SStmt) : Nat → SrcSt → Option Out
  | 0, _ => none
  | f + 1, m =>
    if evalCondP L m c then
      (match semPure L f m b with
       | none => none
       | some (.brk, m1) => some (.norm, m1)
       | some (_, m1) => semPureFor L c u b f (pureSpec L m1 u))
    else some (.norm, m)
end

end CV.GenStruct
