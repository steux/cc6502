/-
  16-bit `++` / `--` (stage 9): the derived statements `incW` / `decW` of CV.GenStruct mean "the 16-bit value in the
  two cells of `s` plus / minus one"; nothing else changes.
-/
import CV.Proofs.GenWord
import CV.GenStruct
namespace CV.GenStruct
open CV.GenFlat CV.GenReg

theorem incW_word (L : Layout) (σ : SrcSt) (s : String) (f : Nat) :
    ∃ σ', sem L (f + 3) σ (incW s) = some (.norm, σ') ∧ wordAt L σ'.mem s = wordAt L σ.mem s + 1 ∧
      σ'.x = σ.x ∧ σ'.y = σ.y ∧ ∀ a, a ≠ L s → a ≠ L s + 1 → σ'.mem.read a = σ.mem.read a := by
  have hr : ∀ b, (σ.mem.write (L s) b).read (L s + 1) = σ.mem.read (L s + 1) := fun b =>
    Mem.read_write_other _ _ _ _ (succ_ne (L s)).symm
  -- the low byte goes up, and so does the high byte if the low byte has become 0; the fuel is the depth of the
  -- statement, `seq` / `ifThen` / `flat`
  have hsem : sem L (f + 3) σ (incW s) = some (.norm,
      if σ.mem.read (L s) + 1 = 0 then wr L (wr L σ (.var s) (σ.mem.read (L s) + 1)) (.el s (.k 1)) (σ.mem.read (L s + 1) + 1)
      else wr L σ (.var s) (σ.mem.read (L s) + 1)) := by
    simp only [incW, sem, evalCond_nottruth, condEff_nottruth, rspec, rval, LV.ra, val, wr, elAddr_hi, Mem.read_write_same, hr, beq_iff_eq]
    split <;> rfl
  rw [hsem, show wordAt L σ.mem s = word _ _ from rfl, word_succ]
  split
  · exact ⟨_, rfl, word_written L σ s _ _⟩
  · exact ⟨_, rfl, low_written L σ s _⟩

theorem decW_word (L : Layout) (σ : SrcSt) (s : String) (f : Nat) :
    ∃ σ', sem L (f + 4) σ (decW s) = some (.norm, σ') ∧ wordAt L σ'.mem s = wordAt L σ.mem s - 1 ∧
      σ'.x = σ.x ∧ σ'.y = σ.y ∧ ∀ a, a ≠ L s → a ≠ L s + 1 → σ'.mem.read a = σ.mem.read a := by
  have hne : L s + 1 ≠ L s := succ_ne (L s)
  -- the high byte goes down first, if the low byte is 0; `decW s` is three deep as well (`f + 3` would do)
  have hsem : sem L (f + 4) σ (decW s) = some (.norm,
      if σ.mem.read (L s) = 0 then wr L (wr L σ (.el s (.k 1)) (σ.mem.read (L s + 1) - 1)) (.var s) (σ.mem.read (L s) - 1)
      else wr L σ (.var s) (σ.mem.read (L s) - 1)) := by
    by_cases h : σ.mem.read (L s) = 0 <;>
      simp only [decW, sem, evalCond_nottruth, condEff_nottruth, rspec, rval, LV.ra, val, wr, elAddr_hi, Mem.read_write_other _ _ _ _ hne,
        beq_iff_eq, h, if_true, if_false]
  rw [hsem, show wordAt L σ.mem s = word _ _ from rfl, word_pred]
  split
  · -- the high cell is written before the low one, not in the order of `word_written`
    exact ⟨_, rfl, by simp only [wordAt, wr, elAddr_hi, Mem.read_write_same, Mem.read_write_other _ _ _ _ hne.symm], rfl, rfl,
      fun a h1 h2 => (Mem.read_write_other _ _ _ _ (Ne.symm h1)).trans (Mem.read_write_other _ _ _ _ (Ne.symm h2))⟩
  · exact ⟨_, rfl, low_written L σ s _⟩
end CV.GenStruct
