/-
  The templates of CV.GenReg only ever place the renderings `none` and `r a` of their operands, so mapping `f` over the
  operands of a template's result gives the template of the mapped rendering (`_nat`). With `f = opdOf L` this turns the
  lines the structured generator emits (operands as `Option Atom`) into the machine operands of CV.Proofs.GenRegLemmas.
-/
import CV.GenReg
namespace CV.GenReg
open CV.GenFlat

variable {α β : Type} (f : α → β) (n : α) (r : Atom → α)

theorem loadA_nat (a : RA) : loadA (f n) (fun a => f (r a)) a = (loadA n r a).map fun p => (p.1, f p.2) := by
  cases a <;> rfl

theorem withOperand_nat (mn : Mn) (b : RA) :
    withOperand (fun a => f (r a)) mn b = (withOperand r mn b).map fun p => (p.1, f p.2) := by
  cases b <;> rfl

theorem storeA_nat (v : LV) : storeA (f n) (fun a => f (r a)) v = (storeA n r v).map fun p => (p.1, f p.2) := by
  cases v <;> rfl

theorem asgCode_nat (zp : String → Bool) (v : LV) (a : RA) :
    asgCode (f n) (fun a => f (r a)) zp v a = (asgCode n r zp v a).map fun p => (p.1, f p.2) := by
  fun_cases asgCode n r zp v a <;> simp [asgCode, *]

theorem opCode_nat (op : BOp) (b : RA) :
    opCode (f n) (fun a => f (r a)) op b = (opCode n r op b).map fun p => (p.1, f p.2) := by
  simp [opCode, apply_ite (List.map _), List.map_flatMap, withOperand_nat, Function.comp_def]

theorem binCode_nat (zp : String → Bool) (v : LV) (op : BOp) (a b : RA) :
    binCode (f n) (fun a => f (r a)) zp v op a b = (binCode n r zp v op a b).map fun p => (p.1, f p.2) := by
  simp [binCode, apply_ite (List.map _), asgCode_nat, loadA_nat, opCode_nat, storeA_nat]

theorem incCode_nat (inc : Bool) (v : LV) :
    incCode (f n) (fun a => f (r a)) inc v = (incCode n r inc v).map fun p => (p.1, f p.2) := by
  fun_cases incCode n r inc v <;> simp [incCode, loadA_nat, opCode_nat, storeA_nat, *]

theorem chainCode_nat (ops : List (BOp × RA)) :
    chainCode (f n) (fun a => f (r a)) ops = (chainCode n r ops).map fun p => (p.1, f p.2) := by
  induction ops with
  | nil => rfl
  | cons p rest ih => simp [chainCode, opCode_nat, ih]

theorem linCode_nat (e : LExpr) :
    linCode (f n) (fun a => f (r a)) e = (linCode n r e).map fun p => (p.1, f p.2) := by
  induction e <;> simp [linCode, apply_ite (List.map _), loadA_nat, opCode_nat, *]

theorem binWCode_nat (v : String) (op : BOp) (a b : WA) :
    binWCode (f n) (fun a => f (r a)) v op a b = (binWCode n r v op a b).map fun p => (p.1, f p.2) := by
  simp [binWCode, apply_ite (List.map _), Function.comp_def]

theorem loadLeft_nat (t : ET) : loadLeft (f n) (fun a => f (r a)) t = (loadLeft n r t).map fun p => (p.1, f p.2) := by
  cases t <;> simp [loadLeft, loadA_nat]

theorem planCode_nat (op : BOp) (p : Plan) :
    planCode (f n) (fun a => f (r a)) op p = (planCode n r op p).map fun p => (p.1, f p.2) := by
  simp [planCode, apply_ite (List.map _), loadLeft_nat, opCode_nat]

theorem shiftCode_nat (st : ES) (t : ET) (left : Bool) (k : Nat) :
    shiftCode (f n) (fun a => f (r a)) st t left k = (shiftCode n r st t left k).map fun p => (p.1, f p.2) := by
  simp [shiftCode, apply_ite (List.map _), loadLeft_nat]

theorem genE_nat (e : GExpr) (st : ES) :
    genE (f n) (fun a => f (r a)) st e = (genE n r st e).map fun x => (x.1.map (fun p => (p.1, f p.2)), x.2) := by
  induction e generalizing st with
  | atom a => rfl
  | bin l op rr ihl ihr =>
    rw [genE, genE, ihl]
    rcases genE n r st l with _ | ⟨cl, tl, st1⟩
    · rfl
    · simp only [Option.map_some, ihr]
      rcases genE n r st1 rr with _ | ⟨cr, tr, st2⟩
      · rfl
      · rcases hp : plan st2 tl op tr with _ | p <;> simp [arithm, hp, planCode_nat]
  | sh e left k ih =>
    rw [genE, genE, ih]
    rcases genE n r st e with _ | ⟨c, t, st1⟩
    · rfl
    · by_cases hok : shiftOK st1 t k = true <;> simp [hok, shiftCode_nat]

theorem exprCode_nat (v : LV) (e : GExpr) :
    exprCode (f n) (fun a => f (r a)) v e = (exprCode n r v e).map fun p => (p.1, f p.2) := by
  rw [exprCode, exprCode, genE_nat]
  rcases genE n r {} e with _ | ⟨c, t, st'⟩
  · rfl
  · cases t <;> simp [storeA_nat]

theorem rtemplate_nat (zp : String → Bool) (st : RStmt) :
    rtemplate (f n) (fun a => f (r a)) zp st = (rtemplate n r zp st).map fun p => (p.1, f p.2) := by
  cases st <;> simp [rtemplate, asgWCode, asgCode_nat, binCode_nat, incCode_nat, binWCode_nat, chainCode_nat, loadA_nat,
    storeA_nat, linCode_nat, exprCode_nat]

end CV.GenReg
