/-
  Conditions and structured statements under the plain reading: a condition has the value `evalCondP` gives it and its
  effect stays inside the compiler's cells (`condRun_eqOff`), hence `sem` and `semPure` end the same way in states equal
  outside those cells (`sem_pure`).
-/
import CV.Proofs.GenRegPure
import CV.Proofs.GenStructSem
namespace CV.GenStruct
open CV.GenFlat CV.GenReg

theorem treeRun_pure (L : Layout) {σ τ : SrcSt} (h : EqOff L σ τ) (e : GExpr) (hn : NoTmp L (gexprNames e)) :
    (treeRun L σ e).1 = treeVal L τ e ∧ EqOff L (treeRun L σ e).2 τ := by
  -- whether the run is defined, and where it leaves its value, does not depend on the state
  have hsh := (evalE_kindE L e σ 0 {}).symm.trans (evalE_kindE L e τ 0 {})
  unfold treeVal treeRun
  cases h1 : evalE L σ 0 {} e with
  | none =>
    rw [h1] at hsh
    rw [Option.map_eq_none_iff.mp hsh.symm]
    exact ⟨rfl, h⟩
  | some x =>
    obtain ⟨⟨σ1, a1⟩, t1, s1⟩ := x
    rw [h1] at hsh
    obtain ⟨⟨⟨σ2, a2⟩, _⟩, h2, ⟨⟩⟩ := Option.map_eq_some_iff.mp hsh.symm
    rw [h2]
    cases t1 with
    | acc =>
      have k1 := (evalE_keeps L h hn h1).1
      have k2 := (evalE_keeps L (EqOff.refl L τ) hn h2).1
      exact ⟨k1.val.trans k2.val.symm, k1.off.trans h⟩
    | _ => exact ⟨rfl, h⟩

theorem treeVal_eqOff (L : Layout) {σ τ : SrcSt} (h : EqOff L σ τ) (e : GExpr) (hn : NoTmp L (gexprNames e)) :
    treeVal L σ e = treeVal L τ e := (treeRun_pure L h e hn).1

theorem wcmpRun_word (L : Layout) {σ τ : SrcSt} (h : EqOff L σ τ) (s : String) (w : WA)
    (hn : NoTmp L ([Atom.var s, Atom.el s (.k 1)] ++ w.lo.names ++ w.hi.names)) :
    (wcmpRun L σ s w).1 = (wordAt L τ.mem s != wval L τ w) ∧ EqOff L (wcmpRun L σ s w).2 τ := by
  have e1 : EqOff L (wcmpRun L σ s w).2 τ := (EqOff.setTmp L _ _).trans h
  refine ⟨?_, e1⟩
  have r0 : σ.mem.read (L s) = τ.mem.read (L s) := h.read_eq (hn.cellOK (.var s) (by simp))
  have r1 : val L (wcmpRun L σ s w).2.mem (wcmpRun L σ s w).2.x (wcmpRun L σ s w).2.y (hiCell s) = τ.mem.read (L s + 1) :=
    (val_hiCell ..).trans (e1.read_eq (hn.cellOK (hiCell s) (by simp [hiCell])).hi)
  have hw : wval L τ w = word (val L τ.mem τ.x τ.y w.hi) (val L τ.mem τ.x τ.y w.lo) := wval_bytes L τ w
  have vhi := val_eqOff L e1 w.hi hn.of_append_right
  simp only [wcmpRun] at r1 vhi ⊢
  rw [r1, vhi, setTmp, Mem.read_write_same, r0, val_eqOff L h w.lo hn.of_append_left.of_append_right, hw]
  exact sub_bytes_ne _ _ _ _

theorem condRun_eqOff (L : Layout) (τ : SrcSt) (c : Cond) : ∀ {σ : SrcSt}, EqOff L σ τ → NoTmp L c.names →
    evalCond L σ c = evalCondP L τ c ∧ EqOff L (condEff L σ c) τ := by
  intro σ h hn
  induction c generalizing σ with
  | cmp op a b =>
    exact ⟨by rw [evalCond_cmp, evalCondP, rval_eqOff L h a hn.of_append_left, rval_eqOff L h b hn.of_append_right], h⟩
  | truth v =>
    exact ⟨by rw [evalCond_truth, evalCondP, lv_eqOff L h v hn], h⟩
  | nottruth v =>
    exact ⟨by rw [evalCond_nottruth, evalCondP, lv_eqOff L h v hn], h⟩
  | and a b iha ihb =>
    obtain ⟨a1, a2⟩ := iha h hn.of_append_left
    obtain ⟨b1, b2⟩ := ihb a2 hn.of_append_right
    refine ⟨by rw [evalCond_and, evalCondP, a1, b1], ?_⟩
    rw [condEff_and]
    split <;> assumption
  | or a b iha ihb =>
    obtain ⟨a1, a2⟩ := iha h hn.of_append_left
    obtain ⟨b1, b2⟩ := ihb a2 hn.of_append_right
    refine ⟨by rw [evalCond_or, evalCondP, a1, b1], ?_⟩
    rw [condEff_or]
    split <;> assumption
  | not c ih =>
    obtain ⟨c1, c2⟩ := ih h hn
    exact ⟨by rw [evalCond_not, evalCondP, c1], c2⟩
  | cmpE op e b eLeft =>
    obtain ⟨t1, t2⟩ := treeRun_pure L h e hn.of_append_left
    exact ⟨by rw [evalCond_cmpE, evalCondP, t1, val_eqOff L t2 b hn.of_append_right], t2⟩
  | truthE e =>
    obtain ⟨t1, t2⟩ := treeRun_pure L h e hn
    exact ⟨by rw [evalCond_truthE, evalCondP, t1], t2⟩
  | wcmp ne s w =>
    obtain ⟨w1, w2⟩ := wcmpRun_word L h s w hn
    refine ⟨?_, w2⟩
    rw [evalCond_wcmp, evalCondP, w1]
    cases ne <;> simp [bne]
  | cmpR op e y eLeft =>
    obtain ⟨t1, t2⟩ := treeRun_pure L h e hn
    exact ⟨by rw [evalCond_cmpR, evalCondP, t1, t2.x_eq, t2.y_eq], (EqOff.setTmp L _ _).trans t2⟩

/-- both runs out of fuel, or both ended the same way in states equal outside the compiler's cells -/
def OutEq (L : Layout) : Option Out → Option Out → Prop
  | some a, some b => a.1 = b.1 ∧ EqOff L a.2 b.2
  | none, none => True
  | _, _ => False

theorem OutEq.bind {L : Layout} {o1 o2 : Option Out} (h : OutEq L o1 o2) {k1 k2 : Out → Option Out}
    (hk : ∀ e σ τ, EqOff L σ τ → OutEq L (k1 (e, σ)) (k2 (e, τ))) : OutEq L (o1.bind k1) (o2.bind k2) := by
  cases o1 with
  | none => cases o2 with
    | none => exact h
    | some _ => exact h.elim
  | some a => cases o2 with
    | none => exact h.elim
    | some b =>
      obtain ⟨e1, σ⟩ := a
      obtain ⟨e2, τ⟩ := b
      obtain rfl : e1 = e2 := h.1
      exact hk e1 σ τ h.2

theorem OutEq.ite {L : Layout} {b1 b2 : Bool} {o1 o2 o1' o2' : Option Out} (hb : b1 = b2) (h1 : OutEq L o1 o1') (h2 : OutEq L o2 o2') :
    OutEq L (if b1 then o1 else o2) (if b2 then o1' else o2') := by
  subst hb
  split <;> assumption

section exits
variable {L : Layout} {k1 k2 : SrcSt → Option Out} (hk : ∀ σ τ, EqOff L σ τ → OutEq L (k1 σ) (k2 τ))
include hk

theorem seqExit_outEq (e : Exit) (σ τ : SrcSt) (h : EqOff L σ τ) : OutEq L (seqExit k1 (e, σ)) (seqExit k2 (e, τ)) := by
  cases e
  · exact hk σ τ h
  · exact ⟨rfl, h⟩
  · exact ⟨rfl, h⟩

theorem loopExit_outEq (e : Exit) (σ τ : SrcSt) (h : EqOff L σ τ) : OutEq L (loopExit k1 (e, σ)) (loopExit k2 (e, τ)) := by
  cases e
  · exact hk σ τ h
  · exact ⟨rfl, h⟩
  · exact hk σ τ h

end exits

section equations
variable (L : Layout) (f : Nat) (σ : SrcSt) (c : Cond) (a b : SStmt) (i u : RStmt)

theorem semPure_ifThen : semPure L (f + 1) σ (.ifThen c a) = if evalCondP L σ c then semPure L f σ a else some (.norm, σ) := rfl

theorem semPure_ifElse : semPure L (f + 1) σ (.ifElse c a b) = if evalCondP L σ c then semPure L f σ a else semPure L f σ b := rfl

theorem semPure_for : semPure L (f + 1) σ (.for i c u b) = semPureFor L c u b f (pureSpec L σ i) := rfl

theorem semPure_seq : semPure L (f + 1) σ (.seq a b) = (semPure L f σ a).bind (seqExit fun σ1 => semPure L f σ1 b) := by
  simp only [semPure]; rw [← seqStep_eq]; rfl

theorem semPure_while : semPure L (f + 1) σ (.while c b) =
    if evalCondP L σ c then (semPure L f σ b).bind (loopExit fun σ1 => semPure L f σ1 (.while c b)) else some (.norm, σ) := by
  simp only [semPure]; rw [← loopStep_eq]; rfl

theorem semPure_doWhile : semPure L (f + 1) σ (.doWhile b c) =
    (semPure L f σ b).bind (loopExit fun σ1 =>
      if evalCondP L σ1 c then semPure L f σ1 (.doWhile b c) else some (.norm, σ1)) := by
  simp only [semPure]; rw [← loopStep_eq]; rfl

theorem semPureFor_succ : semPureFor L c u b (f + 1) σ =
    if evalCondP L σ c then (semPure L f σ b).bind (loopExit fun σ1 => semPureFor L c u b f (pureSpec L σ1 u))
    else some (.norm, σ) := by
  simp only [semPureFor]; rw [← loopStep_eq]; rfl

end equations

theorem sem_pure_both (L : Layout) : ∀ (f : Nat),
    (∀ (σ τ : SrcSt) (st : SStmt), EqOff L σ τ → NoTmp L st.names → OutEq L (sem L f σ st) (semPure L f τ st)) ∧
    (∀ (c : Cond) (u : RStmt) (b : SStmt) (σ τ : SrcSt), EqOff L σ τ → NoTmp L c.names → NoTmp L u.names → NoTmp L (SStmt.names b) →
      OutEq L (semFor L c u b f σ) (semPureFor L c u b f τ)) := by
  intro f
  induction f with
  | zero => exact ⟨fun _ _ _ _ _ => True.intro, fun _ _ _ _ _ _ _ _ _ => True.intro⟩
  | succ f ih =>
    obtain ⟨ih1, ih2⟩ := ih
    refine ⟨?_, ?_⟩
    · intro σ τ st h hn
      cases st with
      | flat s => exact ⟨rfl, rspec_pure L h s hn⟩
      | skip | forget | brk | cont => exact ⟨rfl, h⟩
      | ifBrk c | ifCont c => exact ⟨by rw [(condRun_eqOff L τ c h hn).1], (condRun_eqOff L τ c h hn).2⟩
      | seq a b =>
        rw [sem_seq, semPure_seq]
        exact (ih1 σ τ a h hn.of_append_left).bind (seqExit_outEq fun σ1 τ1 h1 => ih1 σ1 τ1 b h1 hn.of_append_right)
      | ifThen c t =>
        obtain ⟨hc1, hc2⟩ := condRun_eqOff L τ c h hn.of_append_left
        rw [sem_ifThen, semPure_ifThen]
        exact OutEq.ite hc1 (ih1 _ τ t hc2 hn.of_append_right) ⟨rfl, hc2⟩
      | ifElse c t e =>
        obtain ⟨hc1, hc2⟩ := condRun_eqOff L τ c h hn.of_append_left.of_append_left
        rw [sem_ifElse, semPure_ifElse]
        exact OutEq.ite hc1 (ih1 _ τ t hc2 hn.of_append_left.of_append_right) (ih1 _ τ e hc2 hn.of_append_right)
      | «while» c b =>
        obtain ⟨hc1, hc2⟩ := condRun_eqOff L τ c h hn.of_append_left
        rw [sem_while, semPure_while]
        exact OutEq.ite hc1 ((ih1 _ τ b hc2 hn.of_append_right).bind (loopExit_outEq fun σ1 τ1 h1 => ih1 σ1 τ1 (.while c b) h1 hn))
          ⟨rfl, hc2⟩
      | doWhile b c =>
        rw [sem_doWhile, semPure_doWhile]
        refine (ih1 σ τ b h hn.of_append_left).bind (loopExit_outEq fun σ1 τ1 h1 => ?_)
        obtain ⟨hc1, hc2⟩ := condRun_eqOff L τ1 c h1 hn.of_append_right
        exact OutEq.ite hc1 (ih1 _ τ1 (.doWhile b c) hc2 hn) ⟨rfl, hc2⟩
      | «for» i c u b =>
        rw [sem_for, semPure_for]
        -- `i.names ++ c.names ++ u.names ++ b.names`
        have hi := hn.of_append_left.of_append_left.of_append_left
        have hc := hn.of_append_left.of_append_left.of_append_right
        exact ih2 c u b _ _ (rspec_pure L h i hi) hc hn.of_append_left.of_append_right hn.of_append_right
    · intro c u b σ τ h hc hu hb
      obtain ⟨hc1, hc2⟩ := condRun_eqOff L τ c h hc
      rw [semFor_succ, semPureFor_succ]
      exact OutEq.ite hc1
        ((ih1 _ τ b hc2 hb).bind (loopExit_outEq fun σ1 τ1 h1 => ih2 c u b _ _ (rspec_pure L h1 u hu) hc hu hb)) ⟨rfl, hc2⟩

theorem sem_pure (L : Layout) {σ τ : SrcSt} (h : EqOff L σ τ) (f : Nat) (st : SStmt) (hn : NoTmp L st.names) :
    OutEq L (sem L f σ st) (semPure L f τ st) := (sem_pure_both L f).1 σ τ st h hn

end CV.GenStruct
