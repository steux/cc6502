/-
  The spill strategy keeps live values. CV.GenReg.rspec writes the scratch cell and, for expression trees, the stack;
  outside those cells it agrees with the plain reading `pureSpec` (`rspec_pure`). For a tree this is the claim that a value
  the generator has marked as in use (accumulator, scratch cell) is still where it was put when it is needed (`Keeps`).
-/
import CV.Proofs.GenRegLemmas
import CV.Proofs.GenStructPure
set_option linter.constructorNameAsVariable false
namespace CV.GenStruct
open CV.GenFlat CV.GenReg

/-- a write to one of the compiler's cells is invisible outside them; `sp` is free, since a push writes a cell of the
    stack page and moves SP -/
theorem EqOff.write {L : Layout} (σ : SrcSt) {a : Word} (b sp : Byte) (ha : Scratch L a) :
    EqOff L ⟨σ.mem.write a b, σ.x, σ.y, sp⟩ σ :=
  ⟨rfl, rfl, fun _ hx => Mem.read_write_other _ _ _ _ (fun e => hx (e ▸ ha))⟩

theorem EqOff.setTmp (L : Layout) (σ : SrcSt) (a : Byte) : EqOff L (setTmp L σ a) σ := EqOff.write σ a σ.sp (.inl rfl)

theorem EqOff.pushS (L : Layout) (σ : SrcSt) (a : Byte) : EqOff L (pushS σ a) σ := EqOff.write σ a _ (.inr ⟨_, rfl⟩)

theorem tmpWrite_cases (L : Layout) (σ : SrcSt) (op : BOp) (y : RA) :
    tmpWrite L σ op y = σ ∨ tmpWrite L σ op y = setTmp L σ (rval L σ y) := by
  unfold tmpWrite; split
  · exact .inr rfl
  · exact .inl rfl

theorem EqOff.tmpWrite (L : Layout) (σ : SrcSt) (op : BOp) (y : RA) : EqOff L (tmpWrite L σ op y) σ := by
  rcases tmpWrite_cases L σ op y with h | h <;> rw [h]
  · exact EqOff.refl L σ
  · exact EqOff.setTmp L σ _

theorem ra_names_lv (v : LV) : v.ra.names = v.names := by cases v <;> rfl

theorem rval_eqOff (L : Layout) {σ τ : SrcSt} (h : EqOff L σ τ) (a : RA) (hn : NoTmp L a.names) :
    rval L σ a = rval L τ a := by
  cases a with
  | x => exact h.x_eq
  | y => exact h.y_eq
  | of b =>
    cases b with
    | const n => rfl
    | var v => exact h.read_eq (hn.cellOK (.var v) (List.mem_singleton.mpr rfl))
    | el t i =>
      have hc := hn.cellOK (.el t i) (List.mem_singleton.mpr rfl)
      simp only [rval, val]
      rw [h.x_eq, h.y_eq]
      cases i with
      | k n => exact h.read_eq hc
      | x => exact h.read_eq (hc τ.x)
      | y => exact h.read_eq (hc τ.y)

theorem lv_eqOff (L : Layout) {σ τ : SrcSt} (h : EqOff L σ τ) (v : LV) (hn : NoTmp L v.names) :
    rval L σ v.ra = rval L τ v.ra := rval_eqOff L h v.ra (by rw [ra_names_lv]; exact hn)

theorem val_eqOff (L : Layout) {σ τ : SrcSt} (h : EqOff L σ τ) (b : Atom) (hn : NoTmp L b.names) :
    val L σ.mem σ.x σ.y b = val L τ.mem τ.x τ.y b := rval_eqOff L h (.of b) hn

theorem wr_eqOff (L : Layout) {σ τ : SrcSt} (h : EqOff L σ τ) (v : LV) {b b' : Byte} (hb : b = b') :
    EqOff L (wr L σ v b) (wr L τ v b') := by
  subst hb
  have hw : ∀ w : Word, ∀ a, ¬ Scratch L a → (σ.mem.write w b).read a = (τ.mem.write w b).read a := by
    intro w a ha
    by_cases e : w = a
    · subst e; simp
    · simp [e, h.read_eq ha]
  cases v with
  | x => exact ⟨rfl, h.y_eq, fun _ => h.read_eq⟩
  | y => exact ⟨h.x_eq, rfl, fun _ => h.read_eq⟩
  | var n => exact ⟨h.x_eq, h.y_eq, hw _⟩
  | el t i => exact ⟨h.x_eq, h.y_eq, by simp only [wr]; rw [h.x_eq, h.y_eq]; exact hw _⟩

theorem rordered_names (L : Layout) (op : BOp) (a b : RA) (ha : NoTmp L a.names) (hb : NoTmp L b.names) :
    NoTmp L (rordered op a b).1.names ∧ NoTmp L (rordered op a b).2.names := by
  rcases rordered_cases op a b with h | ⟨h, _⟩ <;> rw [h]
  · exact ⟨ha, hb⟩
  · exact ⟨hb, ha⟩

theorem orZero_apply (L : Layout) (σ : SrcSt) (op : BOp) (x y : RA) (h : orZeroReg op x y = true) :
    op.apply (rval L σ x) (rval L σ y) = rval L σ x := by
  simp only [orZeroReg, Bool.and_eq_true, beq_iff_eq] at h
  obtain ⟨⟨rfl, _⟩, hy⟩ := h
  split at hy
  · rw [eq_of_beq hy]; exact BitVec.or_zero
  · cases hy

theorem binSpec_pure (L : Layout) {σ τ : SrcSt} (h : EqOff L σ τ) (v : LV) (op : BOp) (x y : RA)
    (hx : NoTmp L x.names) (hy : NoTmp L y.names) :
    EqOff L (binSpec L σ v op x y) (binPure L τ v op x y) := by
  unfold binSpec binPure
  rw [← rval_eqOff L h x hx, ← rval_eqOff L h y hy]
  split
  · next hz => exact wr_eqOff L h v (orZero_apply L σ op x y hz).symm
  · exact wr_eqOff L ((EqOff.tmpWrite L σ op y).trans h) v rfl

theorem asgWSpec_eqOff (L : Layout) {σ τ : SrcSt} (h : EqOff L σ τ) (s : String) (a : WA)
    (hl : NoTmp L a.lo.names) (hh : NoTmp L a.hi.names) : EqOff L (asgWSpec L σ s a) (asgWSpec L τ s a) := by
  have h1 := wr_eqOff L h (.var s) (rval_eqOff L h (.of a.lo) hl)
  exact wr_eqOff L h1 _ (rval_eqOff L h1 (.of a.hi) hh)

theorem binWSpec_eqOff (L : Layout) {σ τ : SrcSt} (h : EqOff L σ τ) (s : String) (op : BOp) (x y : WA)
    (hx : NoTmp L (x.lo.names ++ x.hi.names)) (hy : NoTmp L (y.lo.names ++ y.hi.names)) :
    EqOff L (binWSpec L σ s op x y) (binWSpec L τ s op x y) := by
  have hlo : lowRes op (rval L σ (.of x.lo)) (rval L σ (.of y.lo)) = lowRes op (rval L τ (.of x.lo)) (rval L τ (.of y.lo)) := by
    rw [rval_eqOff L h (.of x.lo) hx.of_append_left, rval_eqOff L h (.of y.lo) hy.of_append_left]
  have h1 := wr_eqOff L h (.var s) (congrArg Prod.fst hlo)
  exact wr_eqOff L h1 _ (by rw [rval_eqOff L h1 (.of x.hi) hx.of_append_right, rval_eqOff L h1 (.of y.hi) hy.of_append_right, hlo])

theorem chainVal_pure (L : Layout) {σ τ : SrcSt} (h : EqOff L σ τ) (acc : Byte) (ops : List (BOp × RA))
    (hn : NoTmp L (ops.flatMap fun p => p.2.names)) :
    (chainVal L σ acc ops).2 = chainPure L τ acc ops ∧ EqOff L (chainVal L σ acc ops).1 τ := by
  induction ops generalizing σ acc with
  | nil => exact ⟨rfl, h⟩
  | cons p rest ih =>
    obtain ⟨op, y⟩ := p
    rw [List.flatMap_cons] at hn
    simp only [chainVal, chainPure]
    rw [rval_eqOff L h y hn.of_append_left]
    exact ih ((EqOff.tmpWrite L σ op y).trans h) _ hn.of_append_right

theorem linVal_pure (L : Layout) (e : LExpr) {σ τ : SrcSt} (h : EqOff L σ τ) (hn : NoTmp L (lexprNames e)) :
    (linVal L σ e).2 = linPure L τ e ∧ EqOff L (linVal L σ e).1 τ := by
  induction e generalizing σ with
  | pair a op b =>
    have hr := rordered_names L op a b hn.of_append_left hn.of_append_right
    simp only [linVal, linPure]
    rw [rval_eqOff L h _ hr.1, rval_eqOff L h _ hr.2, rordered_apply]
    exact ⟨rfl, (EqOff.tmpWrite L σ op _).trans h⟩
  | left e op y ih =>
    obtain ⟨e1, e2⟩ := ih h hn.of_append_left
    simp only [linVal, linPure]
    rw [e1, rval_eqOff L e2 y hn.of_append_right]
    exact ⟨rfl, (EqOff.tmpWrite L _ op y).trans e2⟩
  | right x op e ih =>
    obtain ⟨e1, e2⟩ := ih h hn.of_append_right
    by_cases hs : op = .sub
    · -- `a − (e)`: the value of `e` is parked in the scratch cell
      subst hs
      have h3 := (EqOff.setTmp L (linVal L σ e).1 (linVal L σ e).2).trans e2
      simp only [linVal, linPure, beq_self_eq_true, if_true]
      exact ⟨(congrArg (· - (linVal L σ e).2) (rval_eqOff L h3 x hn.of_append_left)).trans (by rw [e1]; rfl), h3⟩
    · simp only [linVal, linPure, beq_eq_false_iff_ne.mpr hs, Bool.false_eq_true, if_false]
      rw [e1, rval_eqOff L e2 x hn.of_append_left, BOp.apply_comm op (BOp.commutes_of_ne_sub hs)]
      exact ⟨rfl, (EqOff.tmpWrite L _ op x).trans e2⟩

theorem stackAddr_not_tmp (L : Layout) (hT : ¬ InStack (L "cctmp")) (b : Byte) : L "cctmp" ≠ Cpu.stackAddr b :=
  fun e => hT ⟨b, e⟩

theorem tmpWrite_stack (L : Layout) (hT : ¬ InStack (L "cctmp")) (σ : SrcSt) (op : BOp) (y : RA) (b : Byte) :
    (tmpWrite L σ op y).mem.read (Cpu.stackAddr b) = σ.mem.read (Cpu.stackAddr b) := by
  rcases tmpWrite_cases L σ op y with h | h <;> rw [h]
  exact Mem.read_write_other _ _ _ _ (stackAddr_not_tmp L hT b)

theorem leftVal_eqOff (L : Layout) {σ τ : SrcSt} (h : EqOff L σ τ) (a : Byte) (t : ET)
    (hc : t = .tmp → σ.mem.read (L "cctmp") = τ.mem.read (L "cctmp")) (hn : ∀ x, t = .atm x → NoTmp L x.names) :
    leftVal L σ a t = leftVal L τ a t := by
  cases t with
  | atm x => exact rval_eqOff L h x (hn x rfl)
  | tmp => exact hc rfl
  | acc => rfl

theorem rval_opnd (L : Layout) (σ : SrcSt) (a : Byte) (t : ET) (h : t ≠ .acc) : rval L σ (opnd t) = leftVal L σ a t := by
  cases t with
  | atm x => rfl
  | tmp => rfl
  | acc => exact absurd rfl h

theorem opnd_isReg (t : ET) : (opnd t).isReg = t.isReg := by
  cases t <;> rfl

/-- the end of the save protocol `PHA … STA cctmp ; PLA`, from a state reached after `pushS σ a` by steps that kept SP
    and the pushed byte -/
theorem pull_setTmp (L : Layout) (hT : ¬ InStack (L "cctmp")) (σ σ2 : SrcSt) (a v : Byte) (he : EqOff L σ2 σ)
    (hsp : σ2.sp = σ.sp - 1) (hst : σ2.mem.read (Cpu.stackAddr σ.sp) = a) :
    EqOff L (pullS (setTmp L σ2 v)).1 σ ∧ (pullS (setTmp L σ2 v)).2 = a ∧
    (pullS (setTmp L σ2 v)).1.mem.read (L "cctmp") = v := by
  refine ⟨(EqOff.setTmp L σ2 v).trans he, ?_, Mem.read_write_same _ _ _⟩
  show (σ2.mem.write (L "cctmp") v).read (Cpu.stackAddr (σ2.sp + 1)) = a
  rw [hsp, BitVec.sub_add_cancel, Mem.read_write_other _ _ _ _ (stackAddr_not_tmp L hT σ.sp), hst]

theorem pushS_tmp (L : Layout) (hT : ¬ InStack (L "cctmp")) (σ : SrcSt) (a : Byte) :
    (pushS σ a).mem.read (L "cctmp") = σ.mem.read (L "cctmp") :=
  Mem.read_write_other _ _ _ _ (stackAddr_not_tmp L hT σ.sp).symm

/-- what one operator of a tree does under a plan `p`, whatever made the plan: the state stays equal outside the
    compiler's cells; the value of the operation is left where the plan hands it over (the scratch cell when it saved
    the accumulator); a saved accumulator is back; the last conjunct: the scratch cell is left alone when the plan
    neither spills, nor saves, nor puts a register operand through it. `hr2`, `hsp`: the applied operand is not the
    accumulator, and a spill goes to a scratch cell that holds no operand. -/
theorem evalPlan_spec (L : Layout) (σ : SrcSt) (a : Byte) (op : BOp) (p : Plan) (hT : ¬ InStack (L "cctmp"))
    (hr2 : p.right2 ≠ .acc) (hsp : p.spill = true → p.right2 = .tmp ∧ p.left ≠ .tmp ∧ p.save = false)
    (hl : ∀ x, p.left = .atm x → NoTmp L x.names) (hr : ∀ x, p.right2 = .atm x → NoTmp L x.names) :
    EqOff L (evalPlan L σ a op p).1 σ ∧
    leftVal L (evalPlan L σ a op p).1 (evalPlan L σ a op p).2 (if p.save then .tmp else .acc)
      = op.apply (leftVal L σ a p.left) (if p.spill then a else leftVal L σ a p.right2) ∧
    (p.save = true → (evalPlan L σ a op p).2 = a) ∧
    (p.spill = false → p.save = false → (opnd p.right2).isReg = false →
      (evalPlan L σ a op p).1.mem.read (L "cctmp") = σ.mem.read (L "cctmp")) := by
  have hrv : ∀ τ : SrcSt, rval L τ (opnd p.right2) = leftVal L τ a p.right2 := fun τ => rval_opnd L τ a _ hr2
  unfold evalPlan
  cases hs : p.spill
  · cases hv : p.save <;> simp only [Bool.false_eq_true, if_false, if_true, hrv]
    · refine ⟨EqOff.tmpWrite L σ op _, rfl, (fun h => nomatch h), fun _ _ hreg => ?_⟩
      simp [tmpWrite, hreg]
    · -- `PHA`, the operation, `STA cctmp ; PLA`
      have e1 := EqOff.pushS L σ a
      have hc1 := pushS_tmp L hT σ a
      obtain ⟨q1, q3, q4⟩ := pull_setTmp L hT σ (tmpWrite L (pushS σ a) op (opnd p.right2)) a
        (op.apply (leftVal L (pushS σ a) a p.left) (leftVal L (pushS σ a) a p.right2))
        ((EqOff.tmpWrite L _ op _).trans e1) (tmpWrite_sp L _ op _)
        (by rw [tmpWrite_stack L hT]; exact Mem.read_write_same _ _ _)
      refine ⟨q1, ?_, fun _ => q3, (fun _ h => nomatch h)⟩
      rw [leftVal, q4, leftVal_eqOff L e1 a _ (fun _ => hc1) hl, leftVal_eqOff L e1 a _ (fun _ => hc1) hr]
  · -- the right operand was in the accumulator: `STA cctmp` first
    obtain ⟨h2, hlt, hv⟩ := hsp hs
    have e0 := EqOff.setTmp L σ a
    simp only [hv, h2, Bool.false_eq_true, if_false, if_true]
    refine ⟨(EqOff.tmpWrite L _ op _).trans e0, ?_, (fun h => nomatch h), (fun h => nomatch h)⟩
    rw [leftVal, leftVal_eqOff L e0 a _ (fun e => absurd e hlt) hl]
    -- the applied operand is the scratch cell, which holds `a`
    exact congrArg (op.apply _) (Mem.read_write_same _ _ _)

/-- the right operand is in the accumulator: it is spilled to the scratch cell, which must be free -/
theorem mkPlan_spill {st : ES} {l rt left : ET} {op : BOp} (hord : order op l rt = (left, .acc)) :
    mkPlan st l op rt = { left := left, right2 := .tmp, spill := true, accL := false, st' := { acc := true, tmpU := false } } ∧
    (planOK st l op rt = true → st.tmpU = false) := by
  simp [mkPlan, planOK, hord, ET.isConst, ET.isReg]

/-- the right operand is not in the accumulator: no spill; the accumulator is saved when it holds an outer operand -/
theorem mkPlan_keep {st : ES} {l rt left right : ET} {op : BOp} (hord : order op l rt = (left, right)) (h : right ≠ .acc) :
    mkPlan st l op rt = { left := left, right2 := right, spill := false, accL := st.acc, st' := { acc := true, tmpU :=
      if st.acc && left != .acc then true else if right == .tmp then false else if left == .tmp then false else st.tmpU } } ∧
    (planOK st l op rt = true →
      (right.isReg && if left == .tmp then false else st.tmpU) = false ∧
      ((st.acc && left != .acc) && if right == .tmp then false else if left == .tmp then false else st.tmpU) = false) := by
  simp only [mkPlan, planOK, hord, beq_false_of_ne h, Bool.false_eq_true, if_false, Bool.false_and, Bool.not_false, Bool.and_true,
    Bool.and_eq_true, Bool.not_eq_true', true_and]
  exact fun hok => ⟨hok.1.2, hok.2⟩

/-- the generator's `acc_in_use` / `tmp_in_use`, read as the set of places that hold a value still to be used -/
def inUse (st : ES) : ET → Prop
  | .acc => st.acc = true
  | .tmp => st.tmpU = true
  | .atm _ => False

/-- a piece of a tree's code (a sub-tree, one operator, a shift) ran from `(σ, a)` under the marks `st` to `q` under `st'`
    and put its value `v` at `t`; `others`: the places it does not take an operand from. Those of them that were marked
    keep their value and their mark, and `t` is none of them. -/
structure Keeps (L : Layout) (st : ES) (others : ET → Prop) (σ : SrcSt) (a : Byte) (q : SrcSt × Byte) (t : ET) (st' : ES)
    (v : Byte) : Prop where
  off : EqOff L q.1 σ
  val : leftVal L q.1 q.2 t = v
  kept : ∀ u, inUse st u → others u → leftVal L q.1 q.2 u = leftVal L σ a u ∧ t ≠ u ∧ inUse st' u
  inTmp : t = .tmp → st'.tmpU = true
  inAcc : t = .acc → st'.acc = true

/-- for the operands in the order `order` puts them: what `mkPlan` decides meets the hypotheses of `evalPlan_spec`, and
    its bookkeeping says which values the step keeps -/
theorem evalPlan_ordered (L : Layout) (σ : SrcSt) (a : Byte) (op : BOp) (st : ES) (l rt left right : ET) (p : Plan)
    (hT : ¬ InStack (L "cctmp")) (hord : order op l rt = (left, right)) (hok : planOK st l op rt = true)
    (hp : p = mkPlan st l op rt)
    (hl : ∀ x, left = .atm x → NoTmp L x.names) (hr : ∀ x, right = .atm x → NoTmp L x.names)
    (htm : (left = .tmp ∨ right = .tmp) → st.tmpU = true) :
    Keeps L st (fun u => left ≠ u ∧ right ≠ u) σ a (evalPlan L σ a op p) (if p.save then .tmp else .acc) p.st'
      (op.apply (leftVal L σ a left) (leftVal L σ a right)) := by
  subst hp
  have S := evalPlan_spec L σ a op (mkPlan st l op rt) hT
  by_cases hsp : right = .acc
  · subst hsp
    have htu : st.tmpU = false := (mkPlan_spill hord).2 hok
    have hlt : left ≠ .tmp := fun e => by rw [htm (.inl e)] at htu; cases htu
    rw [(mkPlan_spill hord).1] at S ⊢
    obtain ⟨hoff, hval, _⟩ := S (fun h => nomatch h) (fun _ => ⟨rfl, hlt, rfl⟩) hl (fun _ h => nomatch h)
    refine { off := hoff, val := hval, kept := fun u hu ho => ?_, inTmp := (fun h => nomatch h), inAcc := fun _ => rfl }
    cases u with
    | acc => exact absurd rfl ho.2
    | tmp => rw [inUse, htu] at hu; cases hu
    | atm _ => exact hu.elim
  · obtain ⟨hreg, hover⟩ := (mkPlan_keep hord hsp).2 hok
    rw [(mkPlan_keep hord hsp).1] at S ⊢
    obtain ⟨hoff, hval, hacc, htmp⟩ := S hsp (fun h => nomatch h) hl hr
    refine { off := hoff, val := hval, kept := fun u hu ho => ?_, inTmp := fun h => ?_, inAcc := fun _ => rfl }
    · cases u with
      | acc =>
        -- an outer operand in the accumulator is pushed and pulled
        have hs : (st.acc && left != ET.acc) = true := by simp [show st.acc = true from hu, ho.1]
        exact ⟨hacc hs, by simp [Plan.save, hs], rfl⟩
      | tmp =>
        -- a taken scratch cell: no register operand goes through it, no result is handed over in it
        have htu : st.tmpU = true := hu
        simp only [beq_false_of_ne ho.1, beq_false_of_ne ho.2, htu, Bool.false_eq_true, if_false, Bool.and_true] at hreg hover
        exact ⟨htmp rfl hover (by rw [opnd_isReg]; exact hreg), by simp [Plan.save, hover],
          by simp [inUse, hover, beq_false_of_ne ho.1, beq_false_of_ne ho.2, htu]⟩
      | atm _ => exact hu.elim
    · cases hs : (st.acc && left != ET.acc) <;> simp [Plan.save, hs] at h ⊢

/-- `evalPlan_ordered` for the operands as written: the claim is symmetric in the two, and `order` at most swaps them -/
theorem evalPlan_keeps (L : Layout) (σ : SrcSt) (a : Byte) (op : BOp) (st : ES) (l rt : ET) (p : Plan)
    (hT : ¬ InStack (L "cctmp")) (hp : plan st l op rt = some p)
    (hl : ∀ x, l = .atm x → NoTmp L x.names) (hr : ∀ x, rt = .atm x → NoTmp L x.names)
    (htm : (l = .tmp ∨ rt = .tmp) → st.tmpU = true) :
    Keeps L st (fun u => l ≠ u ∧ rt ≠ u) σ a (evalPlan L σ a op p) (if p.save then .tmp else .acc) p.st'
      (op.apply (leftVal L σ a l) (leftVal L σ a rt)) := by
  unfold plan at hp
  split at hp
  case isFalse => cases hp
  rename_i hok
  cases hp
  rcases order_cases op l rt with hord | ⟨hord, hc⟩
  · exact evalPlan_ordered L σ a op st l rt l rt _ hT hord hok rfl hl hr htm
  · have k := evalPlan_ordered L σ a op st l rt rt l _ hT hord hok rfl hr hl (fun h => htm h.symm)
    exact { k with val := k.val.trans (BOp.apply_comm op hc _ _), kept := fun u hu ho => k.kept u hu ho.symm }

theorem evalPlan_pure (L : Layout) (σ : SrcSt) (a : Byte) (op : BOp) (st : ES) (l rt : ET) (p : Plan)
    (hT : ¬ InStack (L "cctmp")) (hp : plan st l op rt = some p)
    (hl : ∀ x, l = .atm x → NoTmp L x.names) (hr : ∀ x, rt = .atm x → NoTmp L x.names)
    (htm : (l = .tmp ∨ rt = .tmp) → st.tmpU = true) :
    EqOff L (evalPlan L σ a op p).1 σ ∧
    leftVal L (evalPlan L σ a op p).1 (evalPlan L σ a op p).2 (if p.save then .tmp else .acc)
      = op.apply (leftVal L σ a l) (leftVal L σ a rt) ∧
    (evalPlan L σ a op p).1.sp = σ.sp ∧
    (st.acc = true → l ≠ .acc → rt ≠ .acc → (evalPlan L σ a op p).2 = a ∧ p.save = true) ∧
    (st.tmpU = true → l ≠ .tmp → rt ≠ .tmp →
      (evalPlan L σ a op p).1.mem.read (L "cctmp") = σ.mem.read (L "cctmp") ∧ p.save = false ∧ p.st'.tmpU = true) ∧
    (p.save = true → p.st'.tmpU = true) ∧ p.st'.acc = true := by
  have k := evalPlan_keeps L σ a op st l rt p hT hp hl hr htm
  refine ⟨k.off, k.val, evalPlan_sp L σ a op p, fun hacc h1 h2 => ?_, fun htu h1 h2 => ?_, fun hs => k.inTmp (if_pos hs),
    by rw [plan_some hp]; rfl⟩
  · obtain ⟨k1, k2, _⟩ := k.kept .acc hacc ⟨h1, h2⟩
    exact ⟨k1, Decidable.of_not_not fun hs => k2 (if_neg hs)⟩
  · obtain ⟨k1, k2, k3⟩ := k.kept .tmp htu ⟨h1, h2⟩
    exact ⟨k1, Bool.eq_false_iff.mpr fun hs => k2 (if_pos hs), k3⟩

theorem evalShift_keeps (L : Layout) (σ : SrcSt) (a : Byte) (st : ES) (t : ET) (left : Bool) (k : Nat)
    (hT : ¬ InStack (L "cctmp")) (hok : shiftOK st t k = true) (ht : ∀ x, t = .atm x → NoTmp L x.names) :
    Keeps L st (fun u => t ≠ u) σ a (evalShift L σ a st t left k) (if shSave st t then .tmp else .acc) (shSt st t)
      (shVal left k (leftVal L σ a t)) := by
  simp only [shiftOK, Bool.and_eq_true, Bool.not_eq_true'] at hok
  have hover := hok.2
  unfold evalShift shSt
  cases hs : shSave st t <;> simp only [hs, Bool.false_eq_true, if_false, if_true, Bool.false_and, Bool.true_and] at hover ⊢
  · refine { off := EqOff.refl L σ, val := rfl, kept := fun u hu ho => ?_, inTmp := (fun h => nomatch h), inAcc := fun _ => rfl }
    cases u with
    | acc => simp [shSave, show st.acc = true from hu, ho] at hs
    | tmp => exact ⟨rfl, (fun h => nomatch h), by simp [inUse, shTmp, beq_false_of_ne ho, show st.tmpU = true from hu]⟩
    | atm _ => exact hu.elim
  · -- `PHA`, the shifts, `STA cctmp ; PLA`; the scratch cell was free
    have e1 := EqOff.pushS L σ a
    obtain ⟨q1, q3, q4⟩ := pull_setTmp L hT σ (pushS σ a) a (shVal left k (leftVal L (pushS σ a) a t)) e1 rfl
      (Mem.read_write_same _ _ _)
    refine { off := q1, val := by rw [leftVal, q4, leftVal_eqOff L e1 a t (fun _ => pushS_tmp L hT σ a) ht],
             kept := fun u hu ho => ?_, inTmp := fun _ => rfl, inAcc := (fun h => nomatch h) }
    cases u with
    | acc => exact ⟨q3, (fun h => nomatch h), rfl⟩
    | tmp => simp [shTmp, beq_false_of_ne ho, show st.tmpU = true from hu] at hover
    | atm _ => exact hu.elim

/- The cases of the functional induction on `evalE`: `case1` is an atom, `case3` a shift that is accepted, `case7` an
   operator whose operands are both accepted (`evalArithm` then decides); in the others `evalE` gives up. -/

theorem evalE_keeps (L : Layout) {σ τ : SrcSt} {e : GExpr} {a : Byte} {st : ES} {q : SrcSt × Byte} {t : ET} {st' : ES}
    (h : EqOff L σ τ) (hn : NoTmp L (gexprNames e)) (hev : evalE L σ a st e = some (q, t, st')) :
    Keeps L st (fun _ => True) σ a q t st' (pureE L τ e) ∧ ∀ x, t = .atm x → NoTmp L x.names := by
  fun_induction evalE L σ a st e generalizing q t st' with
  | case1 σ a st x =>
    cases hev
    exact ⟨{ off := EqOff.refl L σ, val := rval_eqOff L h x hn, kept := fun u hu _ => ⟨rfl, fun e => by rw [← e] at hu; exact hu, hu⟩,
             inTmp := (fun e => nomatch e), inAcc := (fun e => nomatch e) }, fun y hy => by cases hy; exact hn⟩
  | case7 σ a st l op rr σ1 a1 tl s1 hl σ2 a2 tr s2 hr ihl ihr =>
    obtain ⟨p, hp, rfl, rfl, rfl⟩ := evalArithm_some L hev
    obtain ⟨kl, al⟩ := ihl h hn.of_append_left hl
    obtain ⟨kr, ar⟩ := ihr (kl.off.trans h) hn.of_append_right hr
    -- the left operand's value is still where it was put
    have hkeep : leftVal L σ2 a2 tl = pureE L τ l := by
      rw [← kl.val]
      cases tl with
      | atm x => exact rval_eqOff L kr.off x (al x rfl)
      | tmp => exact (kr.kept .tmp (kl.inTmp rfl) trivial).1
      | acc => exact (kr.kept .acc (kl.inAcc rfl) trivial).1
    have htm : (tl = .tmp ∨ tr = .tmp) → s2.tmpU = true := fun e =>
      e.elim (fun e => (kr.kept .tmp (kl.inTmp e) trivial).2.2) kr.inTmp
    have kp := evalPlan_keeps L σ2 a2 op s2 tl tr p hn.tmpOffStack hp al ar htm
    refine ⟨{ off := (kp.off.trans kr.off).trans kl.off, val := by rw [kp.val, hkeep, kr.val]; rfl, kept := fun u hu _ => ?_,
              inTmp := kp.inTmp, inAcc := kp.inAcc }, fun x hx => by split at hx <;> cases hx⟩
    obtain ⟨e1, e2, e3⟩ := kl.kept u hu trivial
    obtain ⟨f1, f2, f3⟩ := kr.kept u e3 trivial
    obtain ⟨g1, g2, g3⟩ := kp.kept u f3 ⟨e2, f2⟩
    exact ⟨g1.trans (f1.trans e1), g2, g3⟩
  | case3 σ a st e left k σ1 a1 t1 s1 he hok ih =>
    cases hev
    obtain ⟨ke, ae⟩ := ih h hn he
    have ks := evalShift_keeps L σ1 a1 s1 t1 left k hn.tmpOffStack hok ae
    refine ⟨{ off := ks.off.trans ke.off, val := by rw [ks.val, ke.val]; rfl, kept := fun u hu _ => ?_,
              inTmp := ks.inTmp, inAcc := ks.inAcc }, fun x hx => by split at hx <;> cases hx⟩
    obtain ⟨e1, e2, e3⟩ := ke.kept u hu trivial
    obtain ⟨g1, g2, g3⟩ := ks.kept u e3 e2
    exact ⟨g1.trans e1, g2, g3⟩
  | _ => cases hev

theorem evalE_pure (L : Layout) (τ : SrcSt) : ∀ (e : GExpr) (σ : SrcSt) (a : Byte) (st : ES) (q : SrcSt × Byte) (t : ET) (st' : ES),
    EqOff L σ τ → NoTmp L (gexprNames e) → evalE L σ a st e = some (q, t, st') →
    EqOff L q.1 σ ∧ leftVal L q.1 q.2 t = pureE L τ e ∧
    (∀ x, t = .atm x → NoTmp L x.names) ∧
    (st.acc = true → q.2 = a ∧ t ≠ .acc ∧ st'.acc = true) ∧
    (st.tmpU = true → q.1.mem.read (L "cctmp") = σ.mem.read (L "cctmp") ∧ t ≠ .tmp ∧ st'.tmpU = true) ∧
    (t = .tmp → st'.tmpU = true) ∧ (t = .acc → st'.acc = true) := by
  intro e σ a st q t st' h hn hev
  obtain ⟨k, ha⟩ := evalE_keeps L h hn hev
  exact ⟨k.off, k.val, ha, fun hacc => k.kept .acc hacc trivial, fun htu => k.kept .tmp htu trivial, k.inTmp, k.inAcc⟩

theorem evalE_of_ok (L : Layout) (σ : SrcSt) (e : GExpr) (hok : e.ok = true) :
    ∃ q st', evalE L σ 0 {} e = some (q, .acc, st') := by
  obtain ⟨c, st', hg⟩ := (e.ok_iff () (fun _ => ())).mp hok
  obtain ⟨q, hq⟩ := (evalE_some_iff L σ 0).2 ((genE_some_iff () fun _ => ()).1 ⟨c, hg⟩)
  exact ⟨q, st', hq⟩

theorem rspec_pure (L : Layout) {σ τ : SrcSt} (h : EqOff L σ τ) (st : RStmt) (hn : NoTmp L st.names) :
    EqOff L (rspec L σ st) (pureSpec L τ st) := by
  cases st with
  | asg v a => exact wr_eqOff L h v (rval_eqOff L h a hn.of_append_right)
  | bin v op a b =>
    have hr := rordered_names L op a b hn.of_append_left.of_append_right hn.of_append_right
    have := binSpec_pure L h v op (rordered op a b).1 (rordered op a b).2 hr.1 hr.2
    rwa [binPure, rordered_apply] at this
  | opasg v op a => exact binSpec_pure L h v op v.ra a (by rw [ra_names_lv]; exact hn.of_append_left) hn.of_append_right
  | inc v | dec v => exact wr_eqOff L h v (by rw [lv_eqOff L h v hn])
  | expr v e =>
    simp only [rspec, pureSpec, exprSpec]
    split
    · rename_i hok
      obtain ⟨⟨σ', a'⟩, st', hq⟩ := evalE_of_ok L σ e hok
      have k := (evalE_keeps L h hn.of_append_right hq).1
      rw [hq]
      exact wr_eqOff L (k.off.trans h) v k.val
    · exact h
  | lin v e =>
    obtain ⟨e1, e2⟩ := linVal_pure L e h hn.of_append_right
    exact wr_eqOff L e2 v e1
  | chain v a op1 b1 ops =>
    -- `v.names ++ a.names ++ b1.names ++ ops.flatMap …`
    have ha := hn.of_append_left.of_append_left.of_append_right
    have hb := hn.of_append_left.of_append_right
    have ho := hn.of_append_right
    have hr := rordered_names L op1 a b1 ha hb
    obtain ⟨e1, e2⟩ := chainVal_pure L h (rval L τ (rordered op1 a b1).1) ((op1, (rordered op1 a b1).2) :: ops)
      (by rw [List.flatMap_cons]; exact NoTmp.append.mpr ⟨hr.2, ho⟩)
    simp only [rspec, pureSpec, chainSpec]
    rw [rval_eqOff L h _ hr.1]
    exact wr_eqOff L e2 v (by rw [e1, chainPure, rordered_apply])
  | asgW s a => exact asgWSpec_eqOff L h s a hn.of_append_left.of_append_right hn.of_append_right
  | binW s op a b =>
    -- `[s, s+1] ++ (a.lo.names ++ (a.hi.names ++ (b.lo.names ++ b.hi.names)))`
    simp only [RStmt.names, List.append_assoc] at hn
    have ha := NoTmp.append.mpr ⟨hn.of_append_right.of_append_left, hn.of_append_right.of_append_right.of_append_left⟩
    have hb := hn.of_append_right.of_append_right.of_append_right
    simp only [rspec, pureSpec]
    rcases wordered_cases op a b with e | ⟨e, _⟩ <;> rw [e]
    · exact binWSpec_eqOff L h s op a b ha hb
    · exact binWSpec_eqOff L h s op b a hb ha
  | opasgW s op a => exact binWSpec_eqOff L h s op (.wvar s) a hn.of_append_left.of_append_left (NoTmp.append.mpr ⟨hn.of_append_left.of_append_right, hn.of_append_right⟩)
end CV.GenStruct
