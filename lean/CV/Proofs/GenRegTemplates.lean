/-
  Running the straight-line templates of CV.GenReg: code is run piece by piece through two views of the machine state,
  `Computes` (source-visible state and accumulator, for code that computes a value) and `Performs` (source-visible state
  and flag belief, for whole statements).
-/
import CV.GenReg
import CV.Proofs.GenFlatLemmas
set_option linter.constructorNameAsVariable false
namespace CV.GenReg
open CV.GenFlat

/-- the source-visible part of a machine state -/
def srcOf (s : Cpu) : SrcSt := { mem := s.mem, x := s.x, y := s.y, sp := s.sp }

@[simp] theorem srcOf_mem (s : Cpu) : (srcOf s).mem = s.mem := rfl
@[simp] theorem srcOf_x (s : Cpu) : (srcOf s).x = s.x := rfl
@[simp] theorem srcOf_y (s : Cpu) : (srcOf s).y = s.y := rfl
@[simp] theorem srcOf_sp (s : Cpu) : (srcOf s).sp = s.sp := rfl

theorem srcOf_write_tmp (L : Layout) (s : Cpu) (v : Byte) :
    srcOf { s with mem := s.mem.write (L "cctmp") v } = setTmp L (srcOf s) v := rfl

/-- what the generator's flag belief claims about a machine state -/
def FlagsInv (L : Layout) (fl : Option FRef) (s : Cpu) : Prop :=
  match fl with
  | none => True
  | some (.var v) => s.f.z = (s.mem.read (L v) == 0)
  | some .x => s.f.z = (s.x == 0)
  | some .y => s.f.z = (s.y == 0)
  | some (.el t i) => s.f.z = (s.mem.read (elAddr L s.x s.y t i) == 0)

@[simp] theorem flagsInv_none (L : Layout) (s : Cpu) : FlagsInv L none s := trivial

theorem flagsInv_some (L : Layout) (v : LV) (s : Cpu) : FlagsInv L (some v) s ↔ s.f.z = (rval L (srcOf s) v.ra == 0) := by
  cases v <;> exact Iff.rfl

theorem forgetMem_inv (L : Layout) (fl : Option FRef) (s s' : Cpu) (h : FlagsInv L fl s)
    (hx : s'.x = s.x) (hy : s'.y = s.y) (hf : s'.f = s.f) : FlagsInv L (forgetMem fl) s' := by
  match fl with
  | none | some (.var _) | some (.el _ _) => trivial
  | some .x => exact (hf ▸ hx ▸ h : s'.f.z = (s'.x == 0))
  | some .y => exact (hf ▸ hy ▸ h : s'.f.z = (s'.y == 0))

@[simp] theorem rval_wr_same (L : Layout) (σ : SrcSt) (v : LV) (b : Byte) : rval L (wr L σ v b) v.ra = b := by
  cases v <;> simp [wr, rval, LV.ra, val]

theorem flagsInv_wr (L : Layout) (σ : SrcSt) (v : LV) (b : Byte) (s' : Cpu) (hm : srcOf s' = wr L σ v b) (hf : s'.f.z = (b == 0)) :
    FlagsInv L (some v) s' := by
  rw [flagsInv_some, hm, rval_wr_same]; exact hf

@[simp] theorem wr_sp (L : Layout) (σ : SrcSt) (v : LV) (b : Byte) : (wr L σ v b).sp = σ.sp := by cases v <;> rfl

@[simp] theorem tmpWrite_sp (L : Layout) (σ : SrcSt) (op : BOp) (y : RA) : (tmpWrite L σ op y).sp = σ.sp := by
  unfold tmpWrite; split <;> rfl

/-- Z describes the accumulator: true after every instruction that loads or computes into A, and what makes the flag
    belief true once A has been stored (`STA` leaves the flags alone) -/
def ZA (s : Cpu) : Prop := s.f.z = (s.a == 0)

/-- the code `c` runs from `s` to its end and leaves the source-visible state `q.1` and the accumulator `q.2`, with Z
    describing the accumulator; a pair because the model's specifications (`chainVal`, `linVal`, `evalPlan`, …) are
    functions into such pairs -/
def Computes (s : Cpu) (c : List (Mn × Opd)) (q : SrcSt × Byte) : Prop :=
  ∃ s', execSeq s c = some s' ∧ srcOf s' = q.1 ∧ s'.a = q.2 ∧ ZA s'

theorem ZA.congr {s s₁ : Cpu} (h : ZA s) (ha : s₁.a = s.a) (hf : s₁.f = s.f) : ZA s₁ := by
  unfold ZA; rw [ha, hf]; exact h

theorem Computes.nil {s : Cpu} (hz : ZA s) : Computes s [] (srcOf s, s.a) := ⟨s, rfl, rfl, rfl, hz⟩

theorem Computes.seq {s : Cpu} {c₁ c₂ : List (Mn × Opd)} {q₁ : SrcSt × Byte} (h₁ : Computes s c₁ q₁) (F : SrcSt → Byte → SrcSt × Byte)
    (h₂ : ∀ s₁, ZA s₁ → Computes s₁ c₂ (F (srcOf s₁) s₁.a)) : Computes s (c₁ ++ c₂) (F q₁.1 q₁.2) := by
  obtain ⟨s₁, e₁, m₁, a₁, z₁⟩ := h₁
  obtain ⟨s₂, e₂, r⟩ := h₂ s₁ z₁
  exact ⟨s₂, execSeq_trans e₁ e₂, m₁ ▸ a₁ ▸ r⟩

theorem Computes.cons {s s₁ : Cpu} {mn : Mn} {o : Opd} {c : List (Mn × Opd)} {q : SrcSt × Byte} (h : s.exec mn o = some s₁)
    (h₁ : Computes s₁ c q) : Computes s ((mn, o) :: c) q := by
  obtain ⟨s₂, e₂, r⟩ := h₁
  exact ⟨s₂, (execSeq_cons h c).trans e₂, r⟩

theorem loadA_computes (L : Layout) (s : Cpu) (x : RA) : Computes s (loadA Opd.none (opd L) x) (srcOf s, rval L (srcOf s) x) := by
  cases x with
  | of a => exact .cons (exec_LDA s _ _ (rd_opd L s a)) (.nil rfl)
  | x => exact ⟨_, rfl, rfl, rfl, rfl⟩
  | y => exact ⟨_, rfl, rfl, rfl, rfl⟩

theorem rd_tmp_after_write (L : Layout) (s : Cpu) (b : Byte) :
    ({ s with mem := s.mem.write (L "cctmp") b } : Cpu).rd (opd L tmp) = some b := by
  simp [tmp, opd, Cpu.rd, Cpu.ea]

/-- the arithmetic instruction of `op` with the carry the machine has: it computes `highRes` for that carry, which is the
    8-bit operation after the set-up `carryOf op` (`highRes_carryIn`), the high byte of a 16-bit one after the low pass -/
def alu (s : Cpu) (op : BOp) (v : Byte) : Cpu :=
  match op with
  | .add => s.adc v
  | .sub => s.sbc v
  | op => { s with a := op.apply s.a v, f := Cpu.setNZ s.f (op.apply s.a v) }

theorem execSeq_mainOf (s : Cpu) (op : BOp) (o : Opd) (v : Byte) (h : s.rd o = some v) :
    execSeq s ((mainOf op).map fun mn => (mn, o)) = some (alu s op v) := by
  cases op <;> (show ((s.rd o).map _).bind _ = _; rw [h]; rfl)

@[simp] theorem alu_src (s : Cpu) (op : BOp) (v : Byte) : srcOf (alu s op v) = srcOf s := by cases op <;> rfl
theorem alu_za (s : Cpu) (op : BOp) (v : Byte) : ZA (alu s op v) := by cases op <;> rfl

theorem alu_a (s : Cpu) (op : BOp) (v : Byte) : (alu s op v).a = highRes op s.f.c s.a v := by
  cases op
  · exact Cpu.adc_a s v
  · exact Cpu.sbc_a s v
  all_goals rfl

theorem mainOf_computes (s : Cpu) (op : BOp) (o : Opd) (v : Byte) (h : s.rd o = some v) :
    Computes s ((mainOf op).map fun mn => (mn, o)) (srcOf s, highRes op s.f.c s.a v) :=
  ⟨_, execSeq_mainOf s op o v h, alu_src .., alu_a .., alu_za ..⟩

/-- the carry after the set-up `carryOf op`, `cy` being the carry before it -/
def carryIn (op : BOp) (cy : Bool) : Bool :=
  match op with
  | .add => false
  | .sub => true
  | _ => cy

theorem execSeq_carryOf (s : Cpu) (op : BOp) :
    execSeq s ((carryOf op).map fun mn => (mn, Opd.none)) = some { s with f := { s.f with c := carryIn op s.f.c } } := by
  cases op <;> rfl

theorem highRes_carryIn (op : BOp) (cy : Bool) (a b : Byte) : highRes op (carryIn op cy) a b = op.apply a b := by
  cases op
  · exact BitVec.add_zero _
  · exact BitVec.sub_zero _
  all_goals rfl

theorem highRes_congr (op : BOp) {cy cy' : Bool} (h : (op = .add ∨ op = .sub) → cy = cy') : highRes op cy = highRes op cy' := by
  cases op
  · rw [h (.inl rfl)]
  · rw [h (.inr rfl)]
  all_goals rfl

theorem lowRes_fst (op : BOp) (a b : Byte) : (lowRes op a b).1 = op.apply a b := by cases op <;> rfl

/-- the carry out of `ADC` / `SBC` is the one `lowRes` reports, when the carry going in (`hc`) is as the set-up
    `carryOf op` leaves it: clear for `+`, set for `-` -/
theorem alu_c (s : Cpu) (op : BOp) (v : Byte) (h : op = .add ∨ op = .sub) (hc : s.f.c = (op == .sub)) :
    (alu s op v).f.c = (lowRes op s.a v).2 := by
  rcases h with rfl | rfl
  · rw [show alu s .add v = s.adc v from rfl, Cpu.adc_c, hc]; rfl
  · rw [show alu s .sub v = s.sbc v from rfl, Cpu.sbc_c, hc]; rfl

theorem and_255 (a : Byte) : a &&& 255#8 = a := by
  rw [show 255#8 = BitVec.allOnes 8 from rfl, BitVec.and_allOnes]

/-- an operand the generator emits no operation for gives the accumulator back; `+ 0` does not carry, `- 0` does not
    borrow (C stays set), and `lowRes` reports no carry for the bitwise operators -/
theorem lowRes_identity (L : Layout) (m : Mem) (rx ry : Byte) (op : BOp) (y : Atom) (a : Byte) (h : isIdentity op y = true) :
    lowRes op a (val L m rx ry y) = (a, op == .sub) := by
  cases y with
  | var _ | el _ _ => cases h
  | const n =>
    cases op <;> obtain rfl := eq_of_beq h
    · exact Prod.ext (BitVec.add_zero a) (decide_eq_false (Nat.not_le.2 a.isLt))
    · exact Prod.ext (BitVec.sub_zero a) (decide_eq_true (Nat.zero_le a.toNat))
    · exact Prod.ext (and_255 a) rfl
    · exact Prod.ext BitVec.or_zero rfl
    · exact Prod.ext BitVec.xor_zero rfl

theorem identity_apply (L : Layout) (m : Mem) (rx ry : Byte) (op : BOp) (y : Atom) (a : Byte) (h : isIdentity op y = true) :
    op.apply a (val L m rx ry y) = a := by
  rw [← lowRes_fst, lowRes_identity L m rx ry op y a h]

theorem withOperand_computes (L : Layout) (s : Cpu) (op : BOp) (y : RA) :
    Computes s ((mainOf op).flatMap fun mn => withOperand (opd L) mn y)
      (tmpWrite L (srcOf s) op y, highRes op s.f.c s.a (rval L (srcOf s) y)) := by
  cases y with
  | of a =>
    rw [show (mainOf op).flatMap (fun mn => withOperand (opd L) mn (.of a)) = (mainOf op).map fun mn => (mn, opd L a) by
      cases op <;> rfl]
    exact mainOf_computes s op _ _ (rd_opd L s a)
  | x =>
    rw [show (mainOf op).flatMap (fun mn => withOperand (opd L) mn .x) = (Mn.STX, opd L tmp) :: (mainOf op).map fun mn => (mn, opd L tmp) by
      cases op <;> rfl]
    exact .cons rfl (mainOf_computes _ op _ _ (rd_tmp_after_write L s s.x))
  | y =>
    rw [show (mainOf op).flatMap (fun mn => withOperand (opd L) mn .y) = (Mn.STY, opd L tmp) :: (mainOf op).map fun mn => (mn, opd L tmp) by
      cases op <;> rfl]
    exact .cons rfl (mainOf_computes _ op _ _ (rd_tmp_after_write L s s.y))

theorem opCode_computes (L : Layout) (s : Cpu) (op : BOp) (y : RA) (hz : ZA s) :
    Computes s (opCode Opd.none (opd L) op y) (tmpWrite L (srcOf s) op y, op.apply s.a (rval L (srcOf s) y)) := by
  unfold opCode
  -- `Computes` says nothing of the carry, so the set-up is not a step of `Computes.seq`: it is run here
  rw [Computes, execSeq_append, execSeq_carryOf]
  by_cases hid : rIsIdentity op y = true
  · cases y with
    | of a =>
      refine ⟨{ s with f := { s.f with c := carryIn op s.f.c } }, ?_, rfl, (identity_apply L _ _ _ op a _ hid).symm, hz⟩
      simp only [hid, if_true]; rfl
    | x => cases hid
    | y => cases hid
  · have h := withOperand_computes L { s with f := { s.f with c := carryIn op s.f.c } } op y
    rw [highRes_carryIn] at h
    rw [if_neg hid]; exact h

theorem Computes.op {s : Cpu} {c : List (Mn × Opd)} {q : SrcSt × Byte} (h : Computes s c q) (L : Layout) (op : BOp) (y : RA) :
    Computes s (c ++ opCode Opd.none (opd L) op y) (tmpWrite L q.1 op y, op.apply q.2 (rval L q.1 y)) :=
  h.seq (fun σ a => (tmpWrite L σ op y, op.apply a (rval L σ y))) fun s₁ z₁ => opCode_computes L s₁ op y z₁

theorem storeA_exec (L : Layout) (s : Cpu) (v : LV) (hz : ZA s) :
    ∃ s', execSeq s (storeA Opd.none (opd L) v) = some s' ∧ srcOf s' = wr L (srcOf s) v s.a ∧ s'.f.z = (s.a == 0) := by
  cases v with
  | var n => exact ⟨{ s with mem := s.mem.write (L n) s.a }, rfl, rfl, hz⟩
  | x => exact ⟨{ s with x := s.a, f := Cpu.setNZ s.f s.a }, rfl, rfl, rfl⟩
  | y => exact ⟨{ s with y := s.a, f := Cpu.setNZ s.f s.a }, rfl, rfl, rfl⟩
  | el t i =>
    exact ⟨{ s with mem := s.mem.write (elAddr L s.x s.y t i) s.a }, execSeq_cons (exec_STA s _ _ (ea_opd_el L s t i)) [], rfl, hz⟩

/-- the code `c` runs from `s` to its end and leaves the source-visible state `σ'`; the flag belief `fl` is true of the
    state reached -/
def Performs (L : Layout) (s : Cpu) (c : List (Mn × Opd)) (σ' : SrcSt) (fl : Option FRef) : Prop :=
  ∃ s', execSeq s c = some s' ∧ srcOf s' = σ' ∧ FlagsInv L fl s'

theorem Computes.store {s : Cpu} {c : List (Mn × Opd)} {q : SrcSt × Byte} (h : Computes s c q) (L : Layout) (v : LV) :
    ∃ s', execSeq s (c ++ storeA Opd.none (opd L) v) = some s' ∧ srcOf s' = wr L q.1 v q.2 ∧ s'.f.z = (q.2 == 0) := by
  obtain ⟨s₁, e₁, m₁, a₁, z₁⟩ := h
  obtain ⟨s₂, e₂, m₂, f₂⟩ := storeA_exec L s₁ v z₁
  exact ⟨s₂, execSeq_trans e₁ e₂, by rw [m₂, m₁, a₁], by rw [f₂, a₁]⟩

theorem Computes.assign {s : Cpu} {c : List (Mn × Opd)} {q : SrcSt × Byte} (h : Computes s c q) (L : Layout) (v : LV) :
    Performs L s (c ++ storeA Opd.none (opd L) v) (wr L q.1 v q.2) (some v) := by
  obtain ⟨s', e, m, f⟩ := h.store L v
  exact ⟨s', e, m, flagsInv_wr L _ v _ s' m f⟩

theorem asgCode_performs (L : Layout) (zp : String → Bool) (s : Cpu) (fl : Option FRef) (v : LV) (a : RA) (hinv : FlagsInv L fl s) :
    Performs L s (asgCode Opd.none (opd L) zp v a) (wr L (srcOf s) v (rval L (srcOf s) a)) (asgFlags zp fl v a) := by
  -- through the accumulator (then Z describes the byte moved, hence any `r` that holds it afterwards: the target, or
  -- the source register); one store of a register (the flags stay: `forgetMem`); one load of a register; nothing
  have viaA : ∀ (x : RA) (w r : LV), rval L (wr L (srcOf s) w (rval L (srcOf s) x)) r.ra = rval L (srcOf s) x →
      Performs L s (loadA Opd.none (opd L) x ++ storeA Opd.none (opd L) w) (wr L (srcOf s) w (rval L (srcOf s) x)) (some r) :=
    fun x w r hr => by
      obtain ⟨s', e, m, f⟩ := (loadA_computes L s x).store L w
      exact ⟨s', e, m, (flagsInv_some L r s').2 (by rw [m, hr]; exact f)⟩
  have stReg : ∀ (mn : Mn) (o : Opd) (addr : Word) (b : Byte), s.exec mn o = some { s with mem := s.mem.write addr b } →
      Performs L s [(mn, o)] { srcOf s with mem := s.mem.write addr b } (forgetMem fl) := fun mn o addr b h =>
    ⟨{ s with mem := s.mem.write addr b }, execSeq_cons h [], rfl, forgetMem_inv L fl s _ hinv rfl rfl rfl⟩
  have ldx : ∀ b, Performs L s [(Mn.LDX, opd L b)] (wr L (srcOf s) .x (val L s.mem s.x s.y b)) (some .x) := fun b =>
    ⟨{ s with x := val L s.mem s.x s.y b, f := Cpu.setNZ s.f (val L s.mem s.x s.y b) },
      execSeq_cons (exec_LDX s _ _ (rd_opd L s b)) [], rfl, rfl⟩
  have ldy : ∀ b, Performs L s [(Mn.LDY, opd L b)] (wr L (srcOf s) .y (val L s.mem s.x s.y b)) (some .y) := fun b =>
    ⟨{ s with y := val L s.mem s.x s.y b, f := Cpu.setNZ s.f (val L s.mem s.x s.y b) },
      execSeq_cons (exec_LDY s _ _ (rd_opd L s b)) [], rfl, rfl⟩
  match v, a with
  | .var n, .x => exact stReg .STX _ (L n) s.x rfl
  | .var n, .y => exact stReg .STY _ (L n) s.y rfl
  | .var n, .of b => exact viaA (.of b) (.var n) _ (rval_wr_same L _ _ _)
  | .el t (.k n), .x => exact stReg .STX _ _ s.x rfl
  | .el t (.k n), .y => exact stReg .STY _ _ s.y rfl
  | .el t .x, .x => exact viaA .x (.el t .x) .x rfl
  | .el t .x, .y =>
    show Performs L s (if zp t then _ else _) _ (if zp t then _ else _)
    cases zp t
    · exact viaA .y (.el t .x) .y rfl                                                 -- absolute: no `STY t,X`
    · exact stReg .STY (opd L (.el t .x)) (L t + s.x.zeroExtend 16) s.y rfl           -- zero page
  | .el t .y, .x => exact viaA .x (.el t .y) .x rfl
  | .el t .y, .y => exact viaA .y (.el t .y) .y rfl
  | .el t i, .of b => cases i <;> exact viaA (.of b) (.el t _) _ (rval_wr_same L _ _ _)
  | .x, .x => exact ⟨s, rfl, rfl, hinv⟩
  | .x, .y => exact viaA .y .x .x rfl
  | .x, .of (.el t .x) => exact viaA (.of (.el t .x)) .x .x rfl
  | .x, .of (.el t .y) | .x, .of (.el t (.k n)) | .x, .of (.var w) | .x, .of (.const n) => exact ldx _
  | .y, .y => exact ⟨s, rfl, rfl, hinv⟩
  | .y, .x => exact viaA .x .y .y rfl
  | .y, .of (.el t .y) => exact viaA (.of (.el t .y)) .y .y rfl
  | .y, .of (.el t .x) | .y, .of (.el t (.k n)) | .y, .of (.var w) | .y, .of (.const n) => exact ldy _

theorem binCode_performs (L : Layout) (zp : String → Bool) (s : Cpu) (fl : Option FRef) (v : LV) (op : BOp) (x y : RA) (hinv : FlagsInv L fl s) :
    Performs L s (binCode Opd.none (opd L) zp v op x y) (binSpec L (srcOf s) v op x y)
      (if orZeroReg op x y then asgFlags zp fl v x else some v) := by
  unfold binCode binSpec
  cases orZeroReg op x y
  · exact ((loadA_computes L s x).op L op y).assign L v
  · exact asgCode_performs L zp s fl v x hinv          -- `X | 0` is the register itself: an assignment

theorem incCode_performs (L : Layout) (s : Cpu) (inc : Bool) (v : LV) :
    Performs L s (incCode Opd.none (opd L) inc v)
      (wr L (srcOf s) v (if inc then rval L (srcOf s) v.ra + 1 else rval L (srcOf s) v.ra - 1)) (some v) := by
  cases v with
  | var n => cases inc <;> exact ⟨_, rfl, rfl, flagsInv_wr L (srcOf s) (.var n) _ _ rfl rfl⟩
  | x => cases inc <;> exact ⟨_, rfl, rfl, rfl⟩
  | y => cases inc <;> exact ⟨_, rfl, rfl, rfl⟩
  | el t i =>
    cases i with
    | k n => cases inc <;> exact ⟨_, rfl, rfl, flagsInv_wr L (srcOf s) (.el t (.k n)) _ _ rfl rfl⟩
    | x => cases inc <;> exact ⟨_, rfl, rfl, flagsInv_wr L (srcOf s) (.el t .x) _ _ rfl rfl⟩
    | y =>
      -- `INC t,Y` does not exist: `LDA t,Y ; CLC ; ADC #1 ; STA t,Y`
      have := ((loadA_computes L s (.of (.el t .y))).op L (if inc then .add else .sub) (.of (.const 1))).assign L (.el t .y)
      cases inc <;> exact this

theorem chainCode_computes (L : Layout) (ops : List (BOp × RA)) (s : Cpu) (hz : ZA s) :
    Computes s (chainCode Opd.none (opd L) ops) (chainVal L (srcOf s) s.a ops) := by
  induction ops generalizing s with
  | nil => exact .nil hz
  | cons p rest ih =>
    exact (opCode_computes L s p.1 p.2 hz).seq (chainVal L · · rest) ih

theorem subFrom_computes (L : Layout) (s : Cpu) (x : RA) :
    Computes s ([(Mn.STA, opd L tmp)] ++ loadA Opd.none (opd L) x ++ [(Mn.SEC, Opd.none), (Mn.SBC, opd L tmp)])
      (setTmp L (srcOf s) s.a, rval L (setTmp L (srcOf s) s.a) x - s.a) := by
  refine .cons (s₁ := { s with mem := s.mem.write (L "cctmp") s.a }) rfl ?_
  have h := (loadA_computes L { s with mem := s.mem.write (L "cctmp") s.a } x).op L .sub (.of tmp)
  have e : rval L (setTmp L (srcOf s) s.a) (.of tmp) = s.a := Mem.read_write_same _ _ _
  rw [srcOf_write_tmp, e] at h
  exact h

theorem linCode_computes (L : Layout) (e : LExpr) (s : Cpu) : Computes s (linCode Opd.none (opd L) e) (linVal L (srcOf s) e) := by
  induction e generalizing s with
  | pair a op b => exact (loadA_computes L s _).op L op _
  | left e op y ih => exact (ih s).op L op y
  | right x op e ih =>
    simp only [linCode, linVal]
    split
    · -- `x - e`
      exact (ih s).seq (fun σ a => (setTmp L σ a, rval L (setTmp L σ a) x - a)) fun s₁ _ => subFrom_computes L s₁ x
    · exact (ih s).op L op x

/-- the high pass of a 16-bit statement: no set-up, so the carry is the one the low pass left -/
theorem ldaOp_computes (L : Layout) (s : Cpu) (op : BOp) (x y : Atom) :
    Computes s ([(Mn.LDA, opd L x)] ++ (mainOf op).map fun mn => (mn, opd L y))
      (srcOf s, highRes op s.f.c (rval L (srcOf s) (.of x)) (rval L (srcOf s) (.of y))) :=
  .cons (exec_LDA s _ _ (rd_opd L s x)) (mainOf_computes _ op _ _ (rd_opd L _ y))

/-- the low pass of a 16-bit statement, `LDA x ; [CLC | SEC] ; [op y] ; STA v`: the operation is left out (`emit = false`)
    only for an operand that would not change A; for `+` / `-` the carry is the one the high pass needs -/
theorem lowPass_exec (L : Layout) (s : Cpu) (v : String) (op : BOp) (x y : Atom) (emit : Bool)
    (hskip : emit = false → isIdentity op y = true) :
    ∃ s', execSeq s ([(Mn.LDA, opd L x)] ++ (carryOf op).map (fun mn => (mn, Opd.none)) ++
        (if emit then (mainOf op).map fun mn => (mn, opd L y) else []) ++ [(Mn.STA, opd L (.var v))]) = some s' ∧
      srcOf s' = wr L (srcOf s) (.var v) (lowRes op (val L s.mem s.x s.y x) (val L s.mem s.x s.y y)).1 ∧
      ((op = .add ∨ op = .sub) → s'.f.c = (lowRes op (val L s.mem s.x s.y x) (val L s.mem s.x s.y y)).2) := by
  -- `s₀`, the state after the load and the set-up of the carry, is named so that the terms stay small
  obtain ⟨s₀, h₀⟩ : ∃ s₀ : Cpu, s₀ =
      { s with a := val L s.mem s.x s.y x, f := { Cpu.setNZ s.f (val L s.mem s.x s.y x) with c := carryIn op s.f.c } } := ⟨_, rfl⟩
  have e₀ : ∀ mid, execSeq s ([(Mn.LDA, opd L x)] ++ (carryOf op).map (fun mn => (mn, Opd.none)) ++ mid ++ [(Mn.STA, opd L (.var v))]) =
      (execSeq s₀ mid).bind fun s₁ => some { s₁ with mem := s₁.mem.write (L v) s₁.a } := fun mid => by
    rw [execSeq_append, List.append_assoc, List.singleton_append, execSeq_cons (exec_LDA s _ _ (rd_opd L s x)), execSeq_append,
      execSeq_carryOf, h₀]; rfl
  have c₀ : (op = .add ∨ op = .sub) → s₀.f.c = (op == .sub) := by rw [h₀]; rintro (rfl | rfl) <;> rfl
  obtain ⟨s₁, e₁, m₁, a₁, c₁⟩ : ∃ s₁, execSeq s₀ (if emit then (mainOf op).map fun mn => (mn, opd L y) else []) = some s₁ ∧
      srcOf s₁ = srcOf s ∧ s₁.a = (lowRes op (val L s.mem s.x s.y x) (val L s.mem s.x s.y y)).1 ∧
      ((op = .add ∨ op = .sub) → s₁.f.c = (lowRes op (val L s.mem s.x s.y x) (val L s.mem s.x s.y y)).2) := by
    cases emit
    · have hid := lowRes_identity L s.mem s.x s.y op y (val L s.mem s.x s.y x) (hskip rfl)
      exact ⟨s₀, rfl, by rw [h₀]; rfl, by rw [h₀, hid], fun h => by rw [hid]; exact c₀ h⟩
    · refine ⟨alu s₀ op (val L s.mem s.x s.y y), execSeq_mainOf s₀ op _ _ (by rw [h₀]; exact rd_opd L _ y),
        by rw [alu_src, h₀]; rfl, ?_, fun h => ?_⟩
      · rw [alu_a, lowRes_fst, h₀]; exact highRes_carryIn op s.f.c _ _
      · rw [alu_c s₀ op _ h (c₀ h), h₀]
  exact ⟨{ s₁ with mem := s₁.mem.write (L v) s₁.a }, by rw [e₀, e₁]; rfl, by rw [← a₁, ← m₁]; rfl, c₁⟩

theorem lowEmitted_false (op : BOp) (y : WA) (h : lowEmitted op y = false) : isIdentity op y.lo = true := by
  cases y with
  | wvar t => cases h
  | wbyte t => cases h
  | wconst v =>
    -- `+` and `&` look at the low byte; `-`, `|`, `^` are left out for the constant 0 only
    cases op <;> simp only [lowEmitted, bne_eq_false_iff_eq] at h
    case add | band => exact beq_iff_eq.2 h
    case sub | bor | bxor => subst h; rfl

theorem asgWCode_performs (L : Layout) (s : Cpu) (v : String) (a : WA) :
    Performs L s (asgWCode (opd L) v a) (asgWSpec L (srcOf s) v a) none := by
  obtain ⟨s1, e1, m1, _⟩ := (loadA_computes L s (.of a.lo)).store L (.var v)
  obtain ⟨s2, e2, m2, _⟩ := (loadA_computes L s1 (.of a.hi)).store L (.el v (.k 1))
  exact ⟨s2, execSeq_trans e1 e2, by rw [m2, m1]; rfl, trivial⟩

theorem binW_mask (L : Layout) (σ : SrcSt) (v : String) (op : BOp) (x y : WA) (h : maskLow op x y = true) :
    ∃ t, binWCode Opd.none (opd L) v op x y = asgWCode (opd L) v (.wbyte t) ∧ binWSpec L σ v op x y = asgWSpec L σ v (.wbyte t) := by
  cases x with
  | wconst n => simp [maskLow] at h
  | wbyte b => simp [maskLow] at h
  | wvar t =>
    simp only [maskLow, Bool.and_true, Bool.and_eq_true, beq_iff_eq] at h
    obtain ⟨rfl, rfl⟩ := h
    refine ⟨t, rfl, ?_⟩
    simp only [binWSpec, asgWSpec, lowRes, highRes, BOp.apply, WA.lo, WA.hi, rval, val]
    rw [show (BitVec.truncate 8 (255 : BitVec 16)) = 255#8 from rfl, and_255,
      show (BitVec.truncate 8 ((255 : BitVec 16) >>> 8)) = 0#8 from rfl, BitVec.and_zero]
    rfl

theorem binWCode_performs (L : Layout) (s : Cpu) (v : String) (op : BOp) (x y : WA) :
    Performs L s (binWCode Opd.none (opd L) v op x y) (binWSpec L (srcOf s) v op x y) none := by
  by_cases hm : maskLow op x y = true
  · obtain ⟨t, hc, hs⟩ := binW_mask L (srcOf s) v op x y hm
    rw [hc, hs]; exact asgWCode_performs L s v (.wbyte t)
  · obtain ⟨s1, e1, m1, c1⟩ := lowPass_exec L s v op x.lo y.lo (lowEmitted op y) (lowEmitted_false op y)
    obtain ⟨s2, e2, m2, -⟩ := (ldaOp_computes L s1 op x.hi y.hi).store L (.el v (.k 1))
    refine ⟨s2, ?_, ?_, trivial⟩
    · have : binWCode Opd.none (opd L) v op x y =
          ([(Mn.LDA, opd L x.lo)] ++ (carryOf op).map (fun mn => (mn, Opd.none)) ++
            (if lowEmitted op y then (mainOf op).map fun mn => (mn, opd L y.lo) else []) ++ [(Mn.STA, opd L (.var v))]) ++
          ([(Mn.LDA, opd L x.hi)] ++ (mainOf op).map (fun mn => (mn, opd L y.hi)) ++ storeA Opd.none (opd L) (.el v (.k 1))) := by
        rw [binWCode, if_neg hm]
        simp only [List.append_assoc]; rfl
      rw [this]; exact execSeq_trans e1 e2
    · rw [m2, highRes_congr op c1, m1]; rfl

end CV.GenReg
