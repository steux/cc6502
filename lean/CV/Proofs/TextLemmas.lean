/-
  Text that ends in a number: `p ++ toString n` can be read back when `p` ends in a non-digit (`append_toString_inj`).
  Every generated label is made this way (`.fix12`, `.ifend3`, `xinline7`: C13 tells them apart by it); C08 takes
  `digits_all` for the literal markers `@12@`.
-/
namespace CV

theorem digits_all (n : Nat) : ∀ c ∈ (toString n).toList, c.isDigit = true := by
  intro c hc
  rw [show (toString n).toList = Nat.toDigits 10 n from Nat.toList_repr] at hc
  exact Nat.isDigit_of_mem_toDigits (by decide) (by decide) hc

theorem toString_inj {a b : Nat} (h : toString a = toString b) : a = b := by
  have h2 := congrArg (fun s => Nat.ofDigitChars 10 s.toList 0) h
  simpa [Nat.toList_repr, Nat.ofDigitChars_ten_toDigits] using h2

def EndsNonDigit (s : String) : Prop := ∃ c, s.toList.getLast? = some c ∧ c.isDigit = false

theorem EndsNonDigit.append (l : String) {s : String} (hs : EndsNonDigit s) : EndsNonDigit (l ++ s) := by
  obtain ⟨c, hc, hd⟩ := hs
  exact ⟨c, by simp [String.toList_append, List.getLast?_append, hc], hd⟩

theorem digit_suffix {x ds : List Char} {c : Char} (hx : x.getLast? = some c) (hc : c.isDigit = false)
    (hd : ∀ a ∈ ds, a.isDigit = true) : (x ++ ds).reverse.takeWhile Char.isDigit = ds.reverse := by
  obtain ⟨i, rfl⟩ := List.getLast?_eq_some_iff.mp hx
  rw [List.reverse_append, List.takeWhile_append_of_pos (by simpa using hd)]
  simp [hc]

theorem append_toString_inj {p q : String} {m n : Nat} (hp : EndsNonDigit p) (hq : EndsNonDigit q)
    (h : p ++ toString m = q ++ toString n) : p = q ∧ m = n := by
  obtain ⟨c, hc, hcd⟩ := hp
  obtain ⟨d, hd, hdd⟩ := hq
  have h' : p.toList ++ (toString m).toList = q.toList ++ (toString n).toList := by
    simpa using congrArg String.toList h
  have hs := congrArg (fun l => (l.reverse.takeWhile Char.isDigit).reverse) h'
  simp only [digit_suffix hc hcd (digits_all m), digit_suffix hd hdd (digits_all n), List.reverse_reverse] at hs
  rw [hs] at h'
  exact ⟨String.toList_inj.mp (List.append_cancel_right h'), toString_inj (String.toList_inj.mp hs)⟩

end CV
