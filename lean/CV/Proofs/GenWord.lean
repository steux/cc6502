/-
  The 16-bit statements of stage 6 against plain 16-bit arithmetic. CV.GenReg gives their meaning byte by byte, in
  the order the code works (low bytes, carry, high bytes read after the low byte was stored). For a layout in which the
  high cell of a 16-bit operand is not the low cell of the destination, that meaning is "destination := x ∘ y on 16-bit
  values", and no other cell changes. Throughout, `s` is the 16-bit variable written and `t` one that is read.
-/
import CV.GenReg
namespace CV.GenReg
open CV.GenFlat

/-- high byte first, as `++` on bit vectors takes them -/
def word (hi lo : Byte) : BitVec 16 := hi ++ lo

theorem word_toNat (hi lo : Byte) : (word hi lo).toNat = hi.toNat * 256 + lo.toNat := by
  have := lo.isLt
  simp only [word, BitVec.toNat_append]
  rw [← Nat.shiftLeft_add_eq_or_of_lt (by simpa using this), Nat.shiftLeft_eq]

/-- low byte in the cell of `t`, high byte in the next one -/
def wordAt (L : Layout) (m : Mem) (t : String) : BitVec 16 := word (m.read (L t + 1)) (m.read (L t))

/-- the high cell of the 16-bit variable `s`: as an operand `hiCell s`, which is `.el s (.k 1)`; as an address `L s + 1` -/
theorem elAddr_hi (L : Layout) (x y : Byte) (s : String) : elAddr L x y s (.k 1) = L s + 1 := rfl

theorem val_hiCell (L : Layout) (m : Mem) (x y : Byte) (s : String) : val L m x y (hiCell s) = m.read (L s + 1) := rfl

/-- the 16-bit value of an operand; an 8-bit variable is zero-extended -/
def wval (L : Layout) (σ : SrcSt) : WA → BitVec 16
  | .wvar t => wordAt L σ.mem t
  | .wconst n => n
  | .wbyte a => word 0 (σ.mem.read (L a))

def _root_.CV.GenFlat.BOp.apply16 : BOp → BitVec 16 → BitVec 16 → BitVec 16
  | .add, a, b => a + b
  | .sub, a, b => a - b
  | .band, a, b => a &&& b
  | .bor, a, b => a ||| b
  | .bxor, a, b => a ^^^ b

theorem word_const (n : BitVec 16) : word ((n >>> 8).truncate 8) (n.truncate 8) = n := by
  apply BitVec.eq_of_toNat_eq
  have := n.isLt
  simp only [word_toNat, BitVec.truncate, BitVec.toNat_setWidth, BitVec.toNat_ushiftRight, Nat.shiftRight_eq_div_pow]
  omega

theorem word_eq_zero (hi lo : Byte) : word hi lo = 0 ↔ hi = 0 ∧ lo = 0 := by
  rw [← BitVec.toNat_inj, ← BitVec.toNat_inj, ← BitVec.toNat_inj, word_toNat]
  show _ = 0 ↔ _ = 0 ∧ _ = 0
  omega

theorem word_add (a1 a0 b1 b0 : Byte) :
    word a1 a0 + word b1 b0 = word (a1 + b1 + if a0.toNat + b0.toNat ≥ 256 then 1 else 0) (a0 + b0) := by
  apply BitVec.eq_of_toNat_eq
  have := a0.isLt; have := b0.isLt
  have hc : (if a0.toNat + b0.toNat ≥ 256 then (1 : Byte) else 0).toNat = (a0.toNat + b0.toNat) / 256 := by
    split
    · show 1 = _; omega
    · show 0 = _; omega
  simp only [word_toNat, BitVec.toNat_add, hc, Nat.mod_add_mod]
  omega

/-- subtraction undoes addition: the low bytes borrow exactly when adding `b0` back to their difference carries -/
theorem word_sub (a1 a0 b1 b0 : Byte) :
    word a1 a0 - word b1 b0 = word (a1 - b1 - if b0.toNat ≤ a0.toNat then 0 else 1) (a0 - b0) := by
  have hc : ((a0 - b0).toNat + b0.toNat ≥ 256) = ¬ b0.toNat ≤ a0.toNat := by
    have := a0.isLt; have := b0.isLt
    rw [BitVec.toNat_sub]; apply propext; omega
  rw [eq_comm, BitVec.eq_sub_iff_add_eq, word_add, BitVec.sub_add_cancel]
  simp only [hc, ite_not]
  rw [BitVec.add_assoc, BitVec.add_comm b1, ← BitVec.add_assoc, BitVec.sub_add_cancel, BitVec.sub_add_cancel]

theorem word_succ (hi lo : Byte) : word hi lo + 1 = word (if lo + 1 = 0 then hi + 1 else hi) (lo + 1) := by
  have hc : lo.toNat + (1 : Byte).toNat ≥ 256 ↔ lo + 1 = 0 := by
    have := lo.isLt
    rw [← BitVec.toNat_inj, BitVec.toNat_add]; show lo.toNat + 1 ≥ 256 ↔ (lo.toNat + 1) % 256 = 0; omega
  rw [show (1 : BitVec 16) = word 0 1 from rfl, word_add]
  simp only [hc]; split <;> simp

theorem word_pred (hi lo : Byte) : word hi lo - 1 = word (if lo = 0 then hi - 1 else hi) (lo - 1) := by
  have hc : (1 : Byte).toNat ≤ lo.toNat ↔ ¬ lo = 0 := by
    rw [← BitVec.toNat_inj]; show 1 ≤ lo.toNat ↔ ¬ lo.toNat = 0; omega
  rw [show (1 : BitVec 16) = word 0 1 from rfl, word_sub]
  simp only [hc, ite_not]; split <;> simp

theorem passes_word (op : BOp) (a1 a0 b1 b0 : Byte) :
    word (highRes op (lowRes op a0 b0).2 a1 b1) (lowRes op a0 b0).1 = op.apply16 (word a1 a0) (word b1 b0) := by
  cases op
  · simp only [lowRes, highRes, BOp.apply16, word_add, decide_eq_true_eq]
  · simp only [lowRes, highRes, BOp.apply16, word_sub, decide_eq_true_eq]
  · exact BitVec.and_append.symm
  · exact BitVec.or_append.symm
  · exact BitVec.xor_append.symm

theorem sub_bytes_ne (a1 a0 b1 b0 : Byte) :
    ((highRes .sub (lowRes .sub a0 b0).2 a1 b1 != 0) || ((lowRes .sub a0 b0).1 != 0)) = (word a1 a0 != word b1 b0) := by
  have hp : word _ _ = word a1 a0 - word b1 b0 := passes_word .sub a1 a0 b1 b0
  have hz := word_eq_zero (highRes .sub (lowRes .sub a0 b0).2 a1 b1) (lowRes .sub a0 b0).1
  rw [hp, BitVec.sub_eq_iff_eq_add, show (0 : BitVec 16) + word b1 b0 = word b1 b0 from BitVec.zero_add _] at hz
  rw [Bool.eq_iff_iff]
  simp only [Bool.or_eq_true, bne_iff_ne, ne_eq]
  exact Classical.not_and_iff_not_or_not.symm.trans (not_congr hz.symm)

theorem _root_.CV.GenFlat.BOp.apply16_comm (op : BOp) (h : op.commutes = true) (a b : BitVec 16) : op.apply16 a b = op.apply16 b a := by
  cases op
  · exact BitVec.add_comm a b
  · cases h
  · exact BitVec.and_comm a b
  · exact BitVec.or_comm a b
  · exact BitVec.xor_comm a b

theorem succ_ne (a : Word) : a + 1 ≠ a := by
  intro h
  have := congrArg BitVec.toNat h
  simp [BitVec.toNat_add] at this
  omega

theorem wval_bytes (L : Layout) (σ : SrcSt) (x : WA) : wval L σ x = word (rval L σ (.of x.hi)) (rval L σ (.of x.lo)) := by
  cases x with
  | wvar t => rfl
  | wconst n => exact (word_const n).symm
  | wbyte a => rfl

/-- the high byte of an operand, read after the low byte of the destination `s` was stored, is still the operand's: where
    the separation of the cells (`hx`) is used -/
theorem hi_after_low (L : Layout) (σ : SrcSt) (s : String) (b : Byte) (x : WA) (hx : ∀ t, x = .wvar t → L t + 1 ≠ L s) :
    word (rval L (wr L σ (.var s) b) (.of x.hi)) (rval L σ (.of x.lo)) = wval L σ x := by
  rw [wval_bytes]
  cases x with
  | wvar t => exact congrArg (word · _) (Mem.read_write_other _ _ _ _ (hx t rfl).symm)
  | _ => rfl

/-- `σ'` is `σ` with the 16-bit value `w` in the two cells of `s`: X, Y and every other cell as they were. `binW_word`,
    `wide_stmt_word`, `incW_word` and `decW_word` have this, written out, as their conclusion -/
def SetsWord (L : Layout) (σ : SrcSt) (s : String) (w : BitVec 16) (σ' : SrcSt) : Prop :=
  wordAt L σ'.mem s = w ∧ σ'.x = σ.x ∧ σ'.y = σ.y ∧ ∀ a, a ≠ L s → a ≠ L s + 1 → σ'.mem.read a = σ.mem.read a

theorem word_written (L : Layout) (σ : SrcSt) (s : String) (lo hi : Byte) :
    SetsWord L σ s (word hi lo) (wr L (wr L σ (.var s) lo) (.el s (.k 1)) hi) := by
  refine ⟨?_, rfl, rfl, fun a h1 h2 => ?_⟩
  · simp [wordAt, wr, elAddr_hi]
  · exact (Mem.read_write_other _ _ _ _ (Ne.symm h2)).trans (Mem.read_write_other _ _ _ _ (Ne.symm h1))

theorem low_written (L : Layout) (σ : SrcSt) (s : String) (lo : Byte) :
    SetsWord L σ s (word (σ.mem.read (L s + 1)) lo) (wr L σ (.var s) lo) := by
  refine ⟨?_, rfl, rfl, fun _ h1 _ => Mem.read_write_other _ _ _ _ (Ne.symm h1)⟩
  show word ((σ.mem.write (L s) lo).read (L s + 1)) ((σ.mem.write (L s) lo).read (L s)) = _
  rw [Mem.read_write_other _ _ _ _ (succ_ne (L s)).symm, Mem.read_write_same]

theorem binW_word (L : Layout) (σ : SrcSt) (s : String) (op : BOp) (x y : WA)
    (hx : ∀ t, x = .wvar t → L t + 1 ≠ L s) (hy : ∀ t, y = .wvar t → L t + 1 ≠ L s) :
    wordAt L (binWSpec L σ s op x y).mem s = op.apply16 (wval L σ x) (wval L σ y) ∧
      (binWSpec L σ s op x y).x = σ.x ∧ (binWSpec L σ s op x y).y = σ.y ∧
      ∀ a, a ≠ L s → a ≠ L s + 1 → (binWSpec L σ s op x y).mem.read a = σ.mem.read a := by
  rw [← hi_after_low L σ s (lowRes op (rval L σ (.of x.lo)) (rval L σ (.of y.lo))).1 x hx,
    ← hi_after_low L σ s (lowRes op (rval L σ (.of x.lo)) (rval L σ (.of y.lo))).1 y hy, ← passes_word]
  exact word_written L σ s _ _

theorem asgW_word (L : Layout) (σ : SrcSt) (s : String) (x : WA) (hx : ∀ t, x = .wvar t → L t + 1 ≠ L s) :
    SetsWord L σ s (wval L σ x) (asgWSpec L σ s x) := by
  rw [← hi_after_low L σ s (rval L σ (.of x.lo)) x hx]
  exact word_written L σ s _ _

theorem wordered_cases (op : BOp) (a b : WA) : wordered op a b = (a, b) ∨ (wordered op a b = (b, a) ∧ op.commutes = true) := by
  unfold wordered
  split
  · next h =>
    simp only [Bool.and_eq_true] at h
    obtain ⟨⟨hc, -⟩, -⟩ := h
    exact .inr ⟨rfl, hc⟩
  · exact .inl rfl

/-- the 16-bit operands a statement reads, and (`wResult`) the variable it assigns with the value C prescribes -/
def wOperands : RStmt → List WA
  | .asgW _ a => [a]
  | .binW _ _ a b => [a, b]
  | .opasgW s _ a => [.wvar s, a]
  | _ => []

def wResult (L : Layout) (σ : SrcSt) : RStmt → Option (String × BitVec 16)
  | .asgW s a => some (s, wval L σ a)
  | .binW s op a b => some (s, op.apply16 (wval L σ a) (wval L σ b))
  | .opasgW s op a => some (s, op.apply16 (wordAt L σ.mem s) (wval L σ a))
  | _ => none

/-- what `rspec` says of a 16-bit statement is the assignment of the value C prescribes (`wResult`) to `s` and nothing
    else. `hsep`: the high cell of no 16-bit operand is the low cell of the destination — true of every layout that
    gives each variable its own cells -/
theorem wide_stmt_word (L : Layout) (σ : SrcSt) (st : RStmt) (s : String) (w : BitVec 16) (h : wResult L σ st = some (s, w))
    (hsep : ∀ x ∈ wOperands st, ∀ t, x = .wvar t → L t + 1 ≠ L s) :
    wordAt L (rspec L σ st).mem s = w ∧ (rspec L σ st).x = σ.x ∧ (rspec L σ st).y = σ.y ∧
      ∀ a, a ≠ L s → a ≠ L s + 1 → (rspec L σ st).mem.read a = σ.mem.read a := by
  cases st with
  | asgW d a =>
    cases h
    exact asgW_word L σ s a (hsep a (by simp [wOperands]))
  | binW d op a b =>
    cases h
    have ha := hsep a (by simp [wOperands]); have hb := hsep b (by simp [wOperands])
    rcases wordered_cases op a b with e | ⟨e, hc⟩ <;> rw [rspec, e]
    · exact binW_word L σ s op a b ha hb
    · rw [op.apply16_comm hc]; exact binW_word L σ s op b a hb ha
  | opasgW d op a =>
    cases h
    exact binW_word L σ s op (.wvar s) a (hsep _ (by simp [wOperands])) (hsep a (by simp [wOperands]))
  | _ => simp [wResult] at h

end CV.GenReg
