/-
  The source meaning `sem` by itself. `sem` passes the outcome of a first statement on to a second one, and the
  outcome of a loop body on to the rest of the loop; written with `Option.bind` over `seqExit` / `loopExit` these two
  steps are all the control there is, and a relation between runs that `Option.bind` respects goes through every
  statement.
-/
import CV.GenStruct
namespace CV.GenStruct
open CV.GenFlat CV.GenReg

/-- what `{ a; b }` does with the outcome of `a`: after a normal end it goes on with `k` (the run of `b`), a `break` or
    `continue` is passed up -/
def seqExit (k : SrcSt → Option Out) : Out → Option Out
  | (.norm, m1) => k m1
  | r => some r

/-- what a loop does with the outcome of its body: `break` ends the loop normally, a normal end or a `continue` goes on
    with `k` (the rest of the loop) -/
def loopExit (k : SrcSt → Option Out) : Out → Option Out
  | (.brk, m1) => some (.norm, m1)
  | (_, m1) => k m1

/-- the `match` in `sem` (and `semPure`) on the outcome of a first statement -/
theorem seqStep_eq (o : Option Out) (k : SrcSt → Option Out) :
    (match o with | some (.norm, m1) => k m1 | r => r) = o.bind (seqExit k) := by
  cases o with
  | none => rfl
  | some ob => obtain ⟨e, m1⟩ := ob; cases e <;> rfl

/-- the `match` in `sem`, `semFor` (and `semPure`, `semPureFor`) on the outcome of a loop body -/
theorem loopStep_eq (o : Option Out) (k : SrcSt → Option Out) :
    (match o with | none => none | some (.brk, m1) => some (.norm, m1) | some (_, m1) => k m1) = o.bind (loopExit k) := by
  cases o with
  | none => rfl
  | some ob => obtain ⟨e, m1⟩ := ob; cases e <;> rfl

section equations
variable (L : Layout) (f : Nat) (m : SrcSt) (c : Cond) (a b : SStmt) (i u : RStmt)

theorem sem_ifThen : sem L (f + 1) m (.ifThen c a) =
    if evalCond L m c then sem L f (condEff L m c) a else some (.norm, condEff L m c) := rfl

theorem sem_ifElse : sem L (f + 1) m (.ifElse c a b) =
    if evalCond L m c then sem L f (condEff L m c) a else sem L f (condEff L m c) b := rfl

theorem sem_for : sem L (f + 1) m (.for i c u b) = semFor L c u b f (rspec L m i) := rfl

theorem sem_seq : sem L (f + 1) m (.seq a b) = (sem L f m a).bind (seqExit fun m1 => sem L f m1 b) := by
  -- the `match` in the unfolded `sem` is a matcher of `sem`'s own: `rw` cannot see it as the one of `seqStep_eq`, `rfl` can
  simp only [sem]; rw [← seqStep_eq]; rfl

theorem sem_while : sem L (f + 1) m (.while c b) =
    if evalCond L m c then (sem L f (condEff L m c) b).bind (loopExit fun m1 => sem L f m1 (.while c b))
    else some (.norm, condEff L m c) := by
  simp only [sem]; rw [← loopStep_eq]; rfl

theorem sem_doWhile : sem L (f + 1) m (.doWhile b c) =
    (sem L f m b).bind (loopExit fun m1 =>
      if evalCond L m1 c then sem L f (condEff L m1 c) (.doWhile b c) else some (.norm, condEff L m1 c)) := by
  simp only [sem]; rw [← loopStep_eq]; rfl

theorem semFor_succ : semFor L c u b (f + 1) m =
    if evalCond L m c then (sem L f (condEff L m c) b).bind (loopExit fun m1 => semFor L c u b f (rspec L m1 u))
    else some (.norm, condEff L m c) := by
  simp only [semFor]; rw [← loopStep_eq]; rfl

end equations

/-- `o'` is `o` or, where `o` is undefined (the fuel ran out), anything -/
def Below {α : Type} (o o' : Option α) : Prop := ∀ x, o = some x → o' = some x

theorem Below.refl {α : Type} (o : Option α) : Below o o := fun _ h => h

theorem Below.none {α : Type} (o : Option α) : Below none o := fun _ h => nomatch h

theorem Below.trans {α : Type} {o1 o2 o3 : Option α} (h1 : Below o1 o2) (h2 : Below o2 o3) : Below o1 o3 :=
  fun x h => h2 x (h1 x h)

theorem Below.bind {α β : Type} {o o' : Option α} {k k' : α → Option β} (h : Below o o') (hk : ∀ x, Below (k x) (k' x)) :
    Below (o.bind k) (o'.bind k') := by
  intro y hy
  obtain ⟨x, hx, hy⟩ := Option.bind_eq_some_iff.mp hy
  exact Option.bind_eq_some_iff.mpr ⟨x, h x hx, hk x y hy⟩

theorem Below.ite {α : Type} {p : Prop} [Decidable p] {a a' b b' : Option α} (ha : Below a a') (hb : Below b b') :
    Below (if p then a else b) (if p then a' else b') := by
  split
  · exact ha
  · exact hb

theorem seqExit_below {k k' : SrcSt → Option Out} (h : ∀ m1, Below (k m1) (k' m1)) (ob : Out) :
    Below (seqExit k ob) (seqExit k' ob) := by
  obtain ⟨e, m1⟩ := ob
  cases e
  · exact h m1
  · exact .refl _
  · exact .refl _

theorem loopExit_below {k k' : SrcSt → Option Out} (h : ∀ m1, Below (k m1) (k' m1)) (ob : Out) :
    Below (loopExit k ob) (loopExit k' ob) := by
  obtain ⟨e, m1⟩ := ob
  cases e
  · exact h m1
  · exact .refl _
  · exact h m1

theorem sem_mono_both (L : Layout) : ∀ (f : Nat),
    (∀ (m : SrcSt) (st : SStmt), Below (sem L f m st) (sem L (f + 1) m st)) ∧
    (∀ (c : Cond) (u : RStmt) (b : SStmt) (m : SrcSt), Below (semFor L c u b f m) (semFor L c u b (f + 1) m)) := by
  intro f
  induction f with
  | zero => exact ⟨fun _ _ => .none _, fun _ _ _ _ => .none _⟩
  | succ f ih =>
    obtain ⟨ih1, ih2⟩ := ih
    refine ⟨fun m st => ?_, fun c u b m => ?_⟩
    · cases st with
      | seq a b =>
        rw [sem_seq, sem_seq]
        exact (ih1 m a).bind (seqExit_below fun m1 => ih1 m1 b)
      | ifThen c t =>
        rw [sem_ifThen, sem_ifThen]
        exact (ih1 _ t).ite (.refl _)
      | ifElse c t e =>
        rw [sem_ifElse, sem_ifElse]
        exact (ih1 _ t).ite (ih1 _ e)
      | «while» c b =>
        rw [sem_while, sem_while]
        exact ((ih1 _ b).bind (loopExit_below fun m1 => ih1 m1 _)).ite (.refl _)
      | doWhile b c =>
        rw [sem_doWhile, sem_doWhile]
        exact (ih1 m b).bind (loopExit_below fun m1 => (ih1 _ _).ite (.refl _))
      | «for» i c u b =>
        rw [sem_for, sem_for]
        exact ih2 c u b _
      | _ => exact .refl _
    · rw [semFor_succ, semFor_succ]
      exact ((ih1 _ b).bind (loopExit_below fun m1 => ih2 c u b _)).ite (.refl _)

theorem sem_mono (L : Layout) (f : Nat) (m : SrcSt) (st : SStmt) : Below (sem L f m st) (sem L (f + 1) m st) :=
  (sem_mono_both L f).1 m st

theorem sem_mono_add (L : Layout) (f k : Nat) (m : SrcSt) (st : SStmt) : Below (sem L f m st) (sem L (f + k) m st) := by
  induction k with
  | zero => exact .refl _
  | succ k ih => exact ih.trans (sem_mono L _ m st)

theorem loopExit_cases {k : SrcSt → Option Out} {ob o : Out} (h : loopExit k ob = some o) :
    o.1 = .norm ∨ ∃ m1, k m1 = some o := by
  obtain ⟨e, m1⟩ := ob
  cases e
  · exact .inr ⟨m1, h⟩
  · cases h; exact .inl rfl
  · exact .inr ⟨m1, h⟩

theorem sem_exit_both (L : Layout) : ∀ (f : Nat),
    (∀ (m : SrcSt) (st : SStmt) (e : Exit) (m' : SrcSt), sem L f m st = some (e, m') → e ≠ .norm →
      Scoped false st = false ∧ (e = .cont → contHere st = true)) ∧
    (∀ (c : Cond) (u : RStmt) (b : SStmt) (m : SrcSt) (o : Out), semFor L c u b f m = some o → o.1 = .norm) := by
  intro f
  induction f with
  | zero => exact ⟨fun _ _ _ _ h => (nomatch h), fun _ _ _ _ _ h => (nomatch h)⟩
  | succ f ih =>
    obtain ⟨ih1, ih2⟩ := ih
    refine ⟨fun m st e m' h hne => ?_, fun c u b m o h => ?_⟩
    · have norm : ∀ {x : SrcSt}, some (Exit.norm, x) = some (e, m') → False := fun h => hne (by cases h; rfl)
      cases st with
      | flat s | skip | forget => exact (norm h).elim
      | brk => cases h; exact ⟨rfl, fun hc => nomatch hc⟩
      | cont | ifCont c => exact ⟨rfl, fun _ => rfl⟩
      | ifBrk c =>
        refine ⟨rfl, fun hc => ?_⟩
        subst hc
        simp only [sem, Option.some.injEq, Prod.mk.injEq] at h
        split at h <;> cases h.1
      | seq a b =>
        rw [sem_seq] at h
        obtain ⟨⟨ea, m1⟩, ha, h⟩ := Option.bind_eq_some_iff.mp h
        simp only [Scoped, contHere, Bool.and_eq_false_iff, Bool.or_eq_true]
        cases ea with
        | norm => exact (ih1 _ b e m' h hne).imp .inr fun hc he => .inr (hc he)
        | brk => cases h; exact (ih1 _ a _ _ ha hne).imp .inl fun hc he => .inl (hc he)
        | cont => cases h; exact (ih1 _ a _ _ ha hne).imp .inl fun hc he => .inl (hc he)
      | ifThen c t =>
        rw [sem_ifThen] at h
        split at h
        · exact ih1 _ t e m' h hne
        · exact (norm h).elim
      | ifElse c t el =>
        rw [sem_ifElse] at h
        simp only [Scoped, contHere, Bool.and_eq_false_iff, Bool.or_eq_true]
        split at h
        · exact (ih1 _ t e m' h hne).imp .inl fun hc he => .inl (hc he)
        · exact (ih1 _ el e m' h hne).imp .inr fun hc he => .inr (hc he)
      | «while» c b =>
        rw [sem_while] at h
        split at h
        · obtain ⟨ob, _, h⟩ := Option.bind_eq_some_iff.mp h
          rcases loopExit_cases h with hn | ⟨m1, h1⟩
          · exact absurd hn hne
          · -- the next round is the same statement with less fuel
            exact ih1 m1 _ e m' h1 hne
        · exact (norm h).elim
      | doWhile b c =>
        rw [sem_doWhile] at h
        obtain ⟨ob, _, h⟩ := Option.bind_eq_some_iff.mp h
        rcases loopExit_cases h with hn | ⟨m1, h1⟩
        · exact absurd hn hne
        · split at h1
          · exact ih1 _ _ e m' h1 hne
          · exact (norm h1).elim
      | «for» i c u b =>
        rw [sem_for] at h
        exact absurd (ih2 c u b _ _ h) hne
    · rw [semFor_succ] at h
      split at h
      · obtain ⟨ob, _, h⟩ := Option.bind_eq_some_iff.mp h
        exact (loopExit_cases h).elim id fun ⟨m1, h1⟩ => ih2 c u b _ o h1
      · cases h; rfl

theorem sem_exit (L : Layout) (f : Nat) (m : SrcSt) (st : SStmt) (e : Exit) (m' : SrcSt) (h : sem L f m st = some (e, m'))
    (hne : e ≠ .norm) : Scoped false st = false ∧ (e = .cont → contHere st = true) :=
  (sem_exit_both L f).1 m st e m' h hne

theorem sem_cont_contHere (L : Layout) (f : Nat) (m : SrcSt) (st : SStmt) (m' : SrcSt)
    (h : sem L f m st = some (.cont, m')) : contHere st = true :=
  (sem_exit L f m st .cont m' h (fun e => nomatch e)).2 rfl

theorem scoped_norm (L : Layout) (f : Nat) (m : SrcSt) (st : SStmt) (o : Out)
    (h : sem L f m st = some o) (hsc : Scoped false st = true) : o.1 = .norm :=
  Decidable.byContradiction fun hne => by
    have := (sem_exit L f m st o.1 o.2 h hne).1
    rw [hsc] at this
    cases this

end CV.GenStruct
