/-
  The facts the validator computes (`Facts`) are true where it claims them (`holds_xfer`): what is known of a register
  stays true as long as nothing the source mentions changes (`srcHolds_frame`, `kill_spared`).
-/
import CV.Proofs.ValidExec
import CV.Proofs.MosLemmas
namespace CV.Valid

theorem srcHolds_frame {s s' : Cpu} {v : Byte} {src : Src}
    (hm : Src.isMem src = true → s'.mem = s.mem) (ha : Src.usesA src = true → s'.a = s.a)
    (hx : Src.usesX src = true → s'.x = s.x) (hy : Src.usesY src = true → s'.y = s.y)
    (h : srcHolds s v src) : srcHolds s' v src := by
  cases src with
  | opd o =>
    have hm' : s'.mem = s.mem ∨ ∃ w, o = .imm w := by
      cases o <;> first | exact .inr ⟨_, rfl⟩ | exact .inl (hm rfl)
    rcases hm' with hm' | ⟨w, rfl⟩
    · exact (rd_frame s s' o hm' hx hy).trans h
    · exact h
  | ra => exact (ha rfl).trans h
  | rx => exact (hx rfl).trans h
  | ry => exact (hy rfl).trans h

theorem optHolds_nil (s : Cpu) (v : Byte) : optHolds s v [] := fun _ h => nomatch h

theorem optHolds_cons {s : Cpu} {v : Byte} {src : Src} {l : List Src} (h1 : srcHolds s v src) (h2 : optHolds s v l) :
    optHolds s v (src :: l) := by
  intro x hx
  rcases List.mem_cons.mp hx with rfl | hx
  · exact h1
  · exact h2 x hx

theorem optHolds_clr {s : Cpu} {v : Byte} (p : Src → Bool) {l : List Src} (h : optHolds s v l) : optHolds s v (clr p l) :=
  fun src hs => h src (List.mem_filter.mp hs).1

theorem optHolds_rd {s : Cpu} {w v : Byte} {l : List Src} {o : Opd} (hl : optHolds s w l)
    (hc : l.contains (.opd o) = true) (hv : s.rd o = some v) : v = w :=
  Option.some.inj (hv.symm.trans (hl _ (List.contains_iff_mem.mp hc)))

section
variable {K : Facts} {s : Cpu} (hK : K.holds s)
include hK

theorem Facts.holds.a : optHolds s s.a K.a := hK.1
theorem Facts.holds.x : optHolds s s.x K.x := hK.2.1
theorem Facts.holds.y : optHolds s s.y K.y := hK.2.2.1
theorem Facts.holds.nz : nzHolds s K.nz := hK.2.2.2.1
theorem Facts.holds.z : zHolds s K.z := hK.2.2.2.2

theorem Facts.holds.reg (r : Res) : optHolds s (regVal s r) (K.reg r) := by
  cases r
  case a => exact hK.a
  case x => exact hK.x
  case y => exact hK.y
  all_goals exact optHolds_nil _ _

end

theorem holds_top (s : Cpu) : Facts.top.holds s :=
  ⟨optHolds_nil _ _, optHolds_nil _ _, optHolds_nil _ _, trivial, trivial⟩

/-- what `kill p` leaves of the three lists is true in `s'` of the OLD values of the registers, those in `s`: the
    caller knows which of them are the new ones -/
structure Spared (K : Facts) (p : Src → Bool) (s s' : Cpu) : Prop where
  a : optHolds s' s.a (clr p K.a)
  x : optHolds s' s.x (clr p K.x)
  y : optHolds s' s.y (clr p K.y)

/-- each of memory, A, X, Y is unchanged, or `p` kills every source that mentions it -/
theorem kill_spared {K : Facts} {s : Cpu} (hK : K.holds s) (p : Src → Bool) (s' : Cpu)
    (hm : s'.mem = s.mem ∨ ∀ src, Src.isMem src = true → p src = true)
    (ha : s'.a = s.a ∨ ∀ src, Src.usesA src = true → p src = true)
    (hx : s'.x = s.x ∨ ∀ src, Src.usesX src = true → p src = true)
    (hy : s'.y = s.y ∨ ∀ src, Src.usesY src = true → p src = true) :
    Spared K p s s' := by
  have keep : ∀ {v : Byte} {l : List Src}, optHolds s v l → optHolds s' v (clr p l) := fun h src hs => by
    obtain ⟨hl, hp⟩ := List.mem_filter.mp hs
    have np : ∀ {q : Src → Bool} {P : Prop}, (P ∨ ∀ src, q src = true → p src = true) → q src = true → P :=
      fun h hq => h.resolve_right fun c => by simp [c src hq] at hp
    exact srcHolds_frame (np hm) (np ha) (np hx) (np hy) (h src hl)
  exact { a := keep hK.a, x := keep hK.x, y := keep hK.y }

theorem killMem_spared {K : Facts} {s : Cpu} (hK : K.holds s) (s' : Cpu) (ha : s'.a = s.a) (hx : s'.x = s.x)
    (hy : s'.y = s.y) : Spared K Src.isMem s' s' :=
  have k := kill_spared hK Src.isMem s' (.inr fun _ h => h) (.inl ha) (.inl hx) (.inl hy)
  { a := ha ▸ k.a, x := hx ▸ k.x, y := hy ▸ k.y }

theorem holds_setMem {K : Facts} {s s' : Cpu} (hK : K.holds s) (ha : s'.a = s.a) (hx : s'.x = s.x) (hy : s'.y = s.y) :
    ({ (K.kill Src.isMem) with nz := none, z := none } : Facts).holds s' :=
  have k := killMem_spared hK s' ha hx hy
  ⟨k.a, k.x, k.y, trivial, trivial⟩

/-- `hl`: what is known of the new A may rest on what is still known of the old values of the three registers -/
theorem holds_setA {K : Facts} {s s' : Cpu} {l : List Src} (hK : K.holds s) (hm : s'.mem = s.mem) (hx : s'.x = s.x)
    (hy : s'.y = s.y) (hn : nzHolds s' (some .a))
    (hl : Spared K Src.usesA s s' → optHolds s' s'.a l) :
    ({ (K.kill Src.usesA) with a := l, nz := some .a, z := none } : Facts).holds s' :=
  have k := kill_spared hK Src.usesA s' (.inl hm) (.inr fun _ h => h) (.inl hx) (.inl hy)
  ⟨hl k, hx ▸ k.x, hy ▸ k.y, hn, trivial⟩

theorem holds_setX {K : Facts} {s s' : Cpu} {l : List Src} (hK : K.holds s) (hm : s'.mem = s.mem) (ha : s'.a = s.a)
    (hy : s'.y = s.y) (hn : nzHolds s' (some .x))
    (hl : Spared K Src.usesX s s' → optHolds s' s'.x l) :
    ({ (K.kill Src.usesX) with x := l, nz := some .x, z := none } : Facts).holds s' :=
  have k := kill_spared hK Src.usesX s' (.inl hm) (.inl ha) (.inr fun _ h => h) (.inl hy)
  ⟨ha ▸ k.a, hl k, hy ▸ k.y, hn, trivial⟩

theorem holds_setY {K : Facts} {s s' : Cpu} {l : List Src} (hK : K.holds s) (hm : s'.mem = s.mem) (ha : s'.a = s.a)
    (hx : s'.x = s.x) (hn : nzHolds s' (some .y))
    (hl : Spared K Src.usesY s s' → optHolds s' s'.y l) :
    ({ (K.kill Src.usesY) with y := l, nz := some .y, z := none } : Facts).holds s' :=
  have k := kill_spared hK Src.usesY s' (.inl hm) (.inl ha) (.inl hx) (.inr fun _ h => h)
  ⟨ha ▸ k.a, hx ▸ k.x, hl k, hn, trivial⟩

theorem holds_flags {K : Facts} {s s' : Cpu} {nz : Option Res} {z : Option Bool} (hK : K.holds s) (hm : s'.mem = s.mem)
    (ha : s'.a = s.a) (hx : s'.x = s.x) (hy : s'.y = s.y) (hn : nzHolds s' nz) (hz : zHolds s' z) :
    ({ K with nz := nz, z := z } : Facts).holds s' := by
  have keep : ∀ {v : Byte} {l : List Src}, optHolds s v l → optHolds s' v l := fun h src hs =>
    srcHolds_frame (fun _ => hm) (fun _ => ha) (fun _ => hx) (fun _ => hy) (h src hs)
  exact ⟨ha ▸ keep hK.a, hx ▸ keep hK.x, hy ▸ keep hK.y, hn, hz⟩

/-- by `⟨rfl, rfl⟩` too, but that unfolds `BitVec.msb` at every use -/
theorem nzHolds_setNZ {s : Cpu} {r : Res} (f : Flags) (h : s.f = Cpu.setNZ f (regVal s r)) : nzHolds s (some r) := by
  show s.f.n = _ ∧ s.f.z = _
  rw [h]; exact ⟨setNZ_n' _ _, setNZ_z' _ _⟩

theorem nzHolds_frame {s s' : Cpu} {nz : Option Res} (ha : s'.a = s.a) (hx : s'.x = s.x) (hy : s'.y = s.y)
    (hn : s'.f.n = s.f.n) (hz : s'.f.z = s.f.z) (h : nzHolds s nz) : nzHolds s' nz := by
  cases nz with
  | none => trivial
  | some r =>
    have : regVal s' r = regVal s r := by cases r <;> first | exact ha | exact hx | exact hy | rfl
    simp only [nzHolds, this, hn, hz]; exact h

theorem zHolds_frame {s s' : Cpu} {z : Option Bool} (hz : s'.f.z = s.f.z) (h : zHolds s z) : zHolds s' z := by
  cases z with
  | none => trivial
  | some b => exact hz.trans h

theorem holds_killMem {K : Facts} {s s' : Cpu} (hK : K.holds s) (ha : s'.a = s.a) (hx : s'.x = s.x) (hy : s'.y = s.y)
    (hn : s'.f.n = s.f.n) (hz : s'.f.z = s.f.z) : (K.kill Src.isMem).holds s' :=
  have k := killMem_spared hK s' ha hx hy
  ⟨k.a, k.x, k.y, nzHolds_frame ha hx hy hn hz hK.nz, zHolds_frame hz hK.z⟩

theorem knownImm_mem (l : List Src) (v : Byte) (h : knownImm l = some v) : Src.opd (.imm v) ∈ l := by
  induction l with
  | nil => cases h
  | cons x xs ih =>
    cases x with
    | opd o =>
      cases o with
      | imm w => cases h; exact List.mem_cons_self
      | _ => exact List.mem_cons_of_mem _ (ih h)
    | _ => exact List.mem_cons_of_mem _ (ih h)

theorem zHolds_cmpZ (K : Facts) (s : Cpu) (r : Res) (o : Opd) (v : Byte) (hK : K.holds s) (hr : s.rd o = some v) :
    zHolds (s.cmp (regVal s r) v) (cmpZ K r o) := by
  unfold cmpZ
  cases hk : knownImm (K.reg r) with
  | none => trivial
  | some w =>
    cases o with
    | imm c =>
      obtain rfl : w = regVal s r := Option.some.inj (hK.reg r _ (knownImm_mem _ _ hk))
      cases hr
      exact Cpu.cmp_z ..
    | _ => trivial

theorem holds_xfer {K : Facts} {mn : Mn} {o : Opd} {s s' : Cpu} (hK : K.holds s) (he : s.exec mn o = some s') :
    (xfer K mn o).holds s' := by
  have one : ∀ {s' : Cpu} {v : Byte}, s'.mem = s.mem → (Opd.usesX o = true → s'.x = s.x) →
      (Opd.usesY o = true → s'.y = s.y) → s.rd o = some v → optHolds s' v [.opd o] := fun hm hx hy hv src hs => by
    cases List.mem_singleton.mp hs; exact (rd_frame s _ o hm hx hy).trans hv
  -- behind a store the register equals the cell, if the operand still denotes the cell (`rd_store`)
  have stored : ∀ {ad : Word} {w : Byte} {c : Bool} {l : List Src}, s.ea o = some ad → (c = true → Opd.direct o = true) →
      optHolds { s with mem := s.mem.write ad w } w l →
      optHolds { s with mem := s.mem.write ad w } w (if c then .opd o :: l else l) := fun hea hc hl => by
    split
    · rename_i h; exact optHolds_cons (rd_store _ (hc h) hea) hl
    · exact hl
  -- a load of what the register holds already changes the flags only
  have reload : ∀ (r : Res) {v : Byte}, s.rd o = some v → (K.reg r).contains (.opd o) = true →
      ({ K with nz := some r, z := none } : Facts).holds (setReg s r v) := fun r v hv hc => by
    cases optHolds_rd (hK.reg r) hc hv
    cases r
    case a | x | y => exact holds_flags hK rfl rfl rfl rfl (nzHolds_setNZ s.f rfl) trivial
    all_goals cases hc
  cases mn
  case LDA =>
    obtain ⟨v, hv, rfl⟩ := Option.map_eq_some_iff.mp he
    by_cases hc : K.a.contains (.opd o) = true
    · rw [show xfer K .LDA o = _ from if_pos hc]; exact reload .a hv hc
    · rw [show xfer K .LDA o = _ from if_neg hc]
      exact holds_setA hK rfl rfl rfl (nzHolds_setNZ s.f rfl) fun _ => one rfl (fun _ => rfl) (fun _ => rfl) hv
  case LDX =>
    obtain ⟨v, hv, rfl⟩ := Option.map_eq_some_iff.mp he
    by_cases hc : K.x.contains (.opd o) = true
    · rw [show xfer K .LDX o = _ from if_pos hc]; exact reload .x hv hc
    · rw [show xfer K .LDX o = _ from if_neg hc]
      refine holds_setX hK rfl rfl rfl (nzHolds_setNZ s.f rfl) fun _ => ?_
      -- an operand indexed by X does not denote after the load what it denoted before
      split
      · exact optHolds_nil _ _
      · rename_i hu; exact one rfl (fun e => absurd e hu) (fun _ => rfl) hv
  case LDY =>
    obtain ⟨v, hv, rfl⟩ := Option.map_eq_some_iff.mp he
    by_cases hc : K.y.contains (.opd o) = true
    · rw [show xfer K .LDY o = _ from if_pos hc]; exact reload .y hv hc
    · rw [show xfer K .LDY o = _ from if_neg hc]
      refine holds_setY hK rfl rfl rfl (nzHolds_setNZ s.f rfl) fun _ => ?_
      split
      · exact optHolds_nil _ _
      · rename_i hu; exact one rfl (fun _ => rfl) (fun e => absurd e hu) hv
  case STA =>
    obtain ⟨ad, hv, rfl⟩ := Option.map_eq_some_iff.mp he
    have k := holds_killMem hK (s' := { s with mem := s.mem.write ad s.a }) rfl rfl rfl rfl rfl
    exact ⟨stored hv id k.a, k.x, k.y, k.nz, k.z⟩
  case STX =>
    obtain ⟨ad, hv, rfl⟩ := Option.map_eq_some_iff.mp he
    have k := holds_killMem hK (s' := { s with mem := s.mem.write ad s.x }) rfl rfl rfl rfl rfl
    exact ⟨k.a, stored hv (fun h => (Bool.and_eq_true_iff.mp h).1) k.x, k.y, k.nz, k.z⟩
  case STY =>
    obtain ⟨ad, hv, rfl⟩ := Option.map_eq_some_iff.mp he
    have k := holds_killMem hK (s' := { s with mem := s.mem.write ad s.y }) rfl rfl rfl rfl rfl
    exact ⟨k.a, k.x, stored hv (fun h => (Bool.and_eq_true_iff.mp h).1) k.y, k.nz, k.z⟩
  -- a transfer: the target equals the source and whatever the source is known to equal
  case TAX => cases he; exact holds_setX hK rfl rfl rfl (nzHolds_setNZ s.f rfl) fun k => optHolds_cons rfl (optHolds_clr _ k.a)
  case TAY => cases he; exact holds_setY hK rfl rfl rfl (nzHolds_setNZ s.f rfl) fun k => optHolds_cons rfl (optHolds_clr _ k.a)
  case TXA => cases he; exact holds_setA hK rfl rfl rfl (nzHolds_setNZ s.f rfl) fun k => optHolds_cons rfl k.x
  case TYA => cases he; exact holds_setA hK rfl rfl rfl (nzHolds_setNZ s.f rfl) fun k => optHolds_cons rfl k.y
  case ADC | SBC =>
    obtain ⟨v, -, rfl⟩ := Option.map_eq_some_iff.mp he
    -- `⟨rfl, rfl⟩`: C and V are set along with N and Z, which is not the form `nzHolds_setNZ` asks for
    exact holds_setA hK rfl rfl rfl ⟨rfl, rfl⟩ fun _ => optHolds_nil _ _
  case EOR | AND =>
    obtain ⟨v, -, rfl⟩ := Option.map_eq_some_iff.mp he
    exact holds_setA hK rfl rfl rfl (nzHolds_setNZ s.f rfl) fun _ => optHolds_nil _ _
  case ORA =>
    obtain ⟨v, hv, rfl⟩ := Option.map_eq_some_iff.mp he
    by_cases ho : (o == .imm 0) = true
    · rw [show xfer K .ORA o = _ from if_pos ho]
      cases eq_of_beq ho
      cases hv
      exact holds_flags hK rfl BitVec.or_zero rfl rfl (nzHolds_setNZ s.f rfl) trivial
    · rw [show xfer K .ORA o = _ from if_neg ho]
      exact holds_setA hK rfl rfl rfl (nzHolds_setNZ s.f rfl) fun _ => optHolds_nil _ _
  case CLC | SEC | NOP =>
    cases he
    exact holds_flags hK rfl rfl rfl rfl (nzHolds_frame rfl rfl rfl rfl rfl hK.nz) (zHolds_frame rfl hK.z)
  case CMP =>
    obtain ⟨v, hv, rfl⟩ := Option.map_eq_some_iff.mp he
    exact holds_flags hK rfl rfl rfl rfl trivial (zHolds_cmpZ K s .a o v hK hv)
  case CPX =>
    obtain ⟨v, hv, rfl⟩ := Option.map_eq_some_iff.mp he
    exact holds_flags hK rfl rfl rfl rfl trivial (zHolds_cmpZ K s .x o v hK hv)
  case CPY =>
    obtain ⟨v, hv, rfl⟩ := Option.map_eq_some_iff.mp he
    exact holds_flags hK rfl rfl rfl rfl trivial (zHolds_cmpZ K s .y o v hK hv)
  case INX | DEX =>
    cases he
    exact holds_setX hK rfl rfl rfl (nzHolds_setNZ s.f rfl) fun _ => optHolds_nil _ _
  case INY | DEY =>
    cases he
    exact holds_setY hK rfl rfl rfl (nzHolds_setNZ s.f rfl) fun _ => optHolds_nil _ _
  case PLA =>
    cases he
    exact holds_setA hK rfl rfl rfl (nzHolds_setNZ s.f rfl) fun _ => optHolds_nil _ _
  case PHA => cases he; exact holds_killMem hK rfl rfl rfl rfl rfl
  case INC =>
    rw [exec_inc] at he
    obtain ⟨ad, -, rfl⟩ := Option.map_eq_some_iff.mp he
    exact holds_setMem hK rfl rfl rfl
  case DEC =>
    rw [exec_dec] at he
    obtain ⟨ad, -, rfl⟩ := Option.map_eq_some_iff.mp he
    exact holds_setMem hK rfl rfl rfl
  case ASL | LSR | ROL | ROR =>
    by_cases ho : o = .none
    · subst ho
      cases he
      exact holds_setA hK rfl rfl rfl ⟨rfl, rfl⟩ fun _ => optHolds_nil _ _   -- C is set too, as for `ADC`
    · unfold Cpu.exec at he
      simp only [rmw_of_ne_none _ _ _ ho] at he
      obtain ⟨ad, -, rfl⟩ := Option.map_eq_some_iff.mp he
      show Facts.holds (if (o == Opd.none) = true then _ else _) _
      rw [if_neg fun h => ho (eq_of_beq h)]
      exact holds_setMem hK rfl rfl rfl
  -- no `supported mn` is asked: of an instruction outside the reasoned set `xfer` claims nothing
  all_goals exact holds_top _

set_option linter.unusedVariables false in
/-- `holds_xfer` with the hypothesis `hs`, which is not needed -/
theorem xfer_sound (K : Facts) (mn : Mn) (o : Opd) (s s' : Cpu) (hs : supported mn = true) (hK : K.holds s)
    (he : s.exec mn o = some s') : (xfer K mn o).holds s' :=
  holds_xfer hK he

end CV.Valid
