/-
  What acceptance by the validator gives, with nothing of the machine (`Accepted`): the facts of a line from those of
  the line before, labels at the same places in both programs, and `lineOK` unpacked, once, into a justification for
  every line (`Just`).
-/
import CV.Valid
namespace CV.Valid

/-- the facts assumed at a line, `K` being known in front of it: nothing at a label -/
def atLine (K : Option Facts) : VLine → Option Facts
  | .lab _ => some Facts.top
  | _ => K

theorem factsFrom_cons (K : Option Facts) (l : VLine) (rest : VCode) :
    factsFrom K (l :: rest) = atLine K l :: factsFrom (post (atLine K l) l) rest := by
  cases l <;> rfl

theorem factsFrom_length (K : Option Facts) (code : VCode) : (factsFrom K code).length = code.length := by
  induction code generalizing K with
  | nil => rfl
  | cons l rest ih => rw [factsFrom_cons]; exact congrArg (· + 1) (ih _)

theorem factsFrom_zero (K : Option Facts) (l : VLine) (rest : VCode) :
    (factsFrom K (l :: rest))[0]? = some (atLine K l) := by
  rw [factsFrom_cons]; rfl

theorem factsFrom_succ {K : Option Facts} {code : VCode} {k : Nat} {Kk : Option Facts} {lk lk1 : VLine}
    (hK : (factsFrom K code)[k]? = some Kk) (hl : code[k]? = some lk) (hl1 : code[k + 1]? = some lk1) :
    (factsFrom K code)[k + 1]? = some (atLine (post Kk lk) lk1) := by
  induction code generalizing K k with
  | nil => cases hl
  | cons l rest ih =>
    rw [factsFrom_cons] at hK ⊢
    cases k with
    | zero =>
      cases hK; cases hl
      cases rest with
      | nil => cases hl1
      | cons l2 rest2 => cases hl1; rw [factsFrom_cons]; rfl
    | succ k => exact ih hK hl hl1

theorem factsFrom_atLine (K : Option Facts) {code : VCode} {t : Nat} {l : VLine} (h : code[t]? = some l) :
    ∃ Kp, (factsFrom K code)[t]? = some (atLine Kp l) := by
  induction code generalizing K t with
  | nil => cases h
  | cons a rest ih =>
    rw [factsFrom_cons]
    cases t with
    | zero => cases h; exact ⟨K, rfl⟩
    | succ t => exact ih _ h

theorem checkFromD_line {orig opt : VCode} {D : DTable} {k0 : Nat} {ks : List (Option Facts)} {ro rp : VCode}
    (h : checkFromD orig opt D k0 ks ro rp = true) {i : Nat} {K : Option Facts} {lo lp : VLine}
    (hK : ks[i]? = some K) (hlo : ro[i]? = some lo) (hlp : rp[i]? = some lp) :
    lineOKD orig opt D (k0 + i) K lo lp = true := by
  -- the cases of `checkFromD`: 1 the three lists are empty, 2 each has a head, 3 their lengths differ
  fun_induction checkFromD orig opt D k0 ks ro rp generalizing i with
  | case1 => cases hK
  | case2 k K ks lo ro lp rp ih =>
    obtain ⟨h0, hr⟩ := Bool.and_eq_true_iff.mp h
    cases i with
    | zero => cases hK; cases hlo; cases hlp; exact h0
    | succ i => rw [show k + (i + 1) = k + 1 + i by omega]; exact ih hr hK hlo hlp
  | case3 => cases h

def labAt : VLine → Option String
  | .lab l => some l
  | _ => none

/-- `findLab` looks at a line only through `labAt` -/
theorem findLab_cons (a : VLine) (r : VCode) (l : String) :
    findLab (a :: r) l = if labAt a = some l then some 0 else (findLab r l).map (· + 1) := by
  cases a <;> simp [findLab, labAt]

theorem findLab_spec {code : VCode} {l : String} {t : Nat} (h : findLab code l = some t) : code[t]? = some (.lab l) := by
  induction code generalizing t with
  | nil => cases h
  | cons a rest ih =>
    rw [findLab_cons] at h
    split at h
    · rename_i e
      cases h
      cases a <;> cases e
      exact List.getElem?_cons_zero
    · obtain ⟨j, hj, rfl⟩ := Option.map_eq_some_iff.mp h
      exact ih hj

theorem findLab_congr : ∀ (ro rp : VCode) (l : String), ro.length = rp.length →
    (∀ (i : Nat) lo lp, ro[i]? = some lo → rp[i]? = some lp → labAt lo = labAt lp) → findLab ro l = findLab rp l := by
  intro ro
  induction ro with
  | nil => intro rp l hl _; cases rp with | nil => rfl | cons => cases hl
  | cons a ro ih =>
    intro rp l hl h
    cases rp with
    | nil => cases hl
    | cons b rp =>
      rw [findLab_cons, findLab_cons, h 0 a b rfl rfl,
        ih rp l (Nat.succ.inj hl) fun i lo lp h1 h2 => h (i + 1) lo lp h1 h2]

/-- line `k` is the first half of an exchanged `LDA o ; CLC|SEC` -/
def isFirst (orig opt : VCode) (k : Nat) : Prop :=
  ∃ c o, (c = Mn.CLC ∨ c = Mn.SEC) ∧ opt[k]? = some (.ins c .none) ∧ orig[k]? = some (.ins .LDA o)

/-- the second half: there, and only there, the two programs are not in step (`orig` has done the load, `opt` the flag
    instruction) -/
def isSecond (orig opt : VCode) (k : Nat) : Prop := 0 < k ∧ isFirst orig opt (k - 1)

theorem not_first_of_dummy {orig opt : VCode} {k : Nat} (hlp : opt[k]? = some .dummy) : ¬ isFirst orig opt k := by
  rintro ⟨c, o, -, h1, -⟩; cases hlp.symm.trans h1

theorem not_first_of_same {orig opt : VCode} {k : Nat} {l : VLine} (hlo : orig[k]? = some l) (hlp : opt[k]? = some l) :
    ¬ isFirst orig opt k := by
  rintro ⟨c, o, hc, h1, h2⟩
  cases hlp.symm.trans h1; cases hlo.symm.trans h2; rcases hc with h | h <;> cases h

theorem not_first_of_flag {orig opt : VCode} {k : Nat} {c : Mn} (hc : c = Mn.CLC ∨ c = Mn.SEC)
    (hlo : orig[k]? = some (.ins c .none)) : ¬ isFirst orig opt k := by
  rintro ⟨c', o, -, -, h2⟩; cases hlo.symm.trans h2; rcases hc with h | h <;> cases h

/-- why the validator accepts a pair of lines at position `k`, `K` being the facts there: the arms of `lineOK` -/
inductive Just (orig opt : VCode) (k : Nat) : Option Facts → VLine → VLine → Prop
  | kept {K : Option Facts} {l : VLine} : (∀ mn o, l = .ins mn o → supported mn = true) → Just orig opt k K l l
  | unreachable {lo : VLine} : labAt lo = none → Just orig opt k none lo .dummy
  | removed {K : Facts} {mn : Mn} {o : Opd} : execOK mn o = true →
      removable K (fun r => dead opt r (k + 1)) mn o = true → Just orig opt k (some K) (.ins mn o) .dummy
  /-- `opt` has the load or, that removed, nothing -/
  | second {K : Facts} {c : Mn} {lp : VLine} : (c = .CLC ∨ c = .SEC) → (lp = .dummy ∨ ∃ o, lp = .ins .LDA o) →
      isSecond orig opt k → Just orig opt k (some K) (.ins c .none) lp
  | jmp {K : Facts} {l : String} {t : Nat} : findLab orig l = some t → k < t → onlyFiller opt k t = true →
      Just orig opt k (some K) (.jmp l) .dummy
  | beq {K : Facts} {l : String} : K.z = some false → Just orig opt k (some K) (.br .BEQ l) .dummy
  | bne {K : Facts} {l : String} : K.z = some true → Just orig opt k (some K) (.br .BNE l) .dummy
  /-- the load behind the flag instruction may have been removed -/
  | swap {K : Facts} {c : Mn} {o : Opd} : (c = .CLC ∨ c = .SEC) → execOK .LDA o = true → orig[k + 1]? = some (.ins c .none) →
      (opt[k + 1]? = some (.ins .LDA o) ∨
        (opt[k + 1]? = some .dummy ∧ removable K (fun r => r == .c || dead opt r (k + 2)) .LDA o = true)) →
      Just orig opt k (some K) (.ins .LDA o) (.ins c .none)

/-- the one place where `lineOK` is unfolded: the bullets are the arms of its `match`, in the order of the definition -/
theorem just_of_lineOK {orig opt : VCode} {k : Nat} {K : Option Facts} {lo lp : VLine}
    (h : lineOK orig opt k K lo lp = true) : Just orig opt k K lo lp := by
  have cs : ∀ {c : Mn}, (c == Mn.CLC || c == Mn.SEC) = true → c = .CLC ∨ c = .SEC := fun h =>
    (Bool.or_eq_true_iff.mp h).imp eq_of_beq eq_of_beq
  unfold lineOK at h
  split at h
  · -- `lo == lp`
    rename_i he
    cases eq_of_beq he
    exact .kept (by rintro mn o rfl; exact h)
  · split at h
    · -- `none, _, .dummy`
      exact .unreachable (by cases lo <;> first | rfl | cases h)
    · -- `some K, .ins mn o, .dummy`: `removable`, or …
      rcases Bool.or_eq_true_iff.mp h with h | h
      · obtain ⟨h, hrem⟩ := Bool.and_eq_true_iff.mp h
        exact .removed (Bool.and_eq_true_iff.mp h).2 hrem
      · -- … a second half whose load was removed. The five conjuncts: `mn` is `CLC` or `SEC`, `o` is `.none`, `0 < k`,
        -- what `opt` has at `k - 1`, what `orig` has there
        simp only [Bool.and_eq_true, decide_eq_true_eq, beq_iff_eq] at h
        obtain ⟨⟨⟨⟨hc, rfl⟩, hk⟩, hp⟩, ho⟩ := h
        have hc := cs (by simpa using hc)
        split at ho
        · exact .second hc (.inl rfl) ⟨hk, _, _, hc, hp, by assumption⟩
        · cases ho
    · -- `some _, .jmp l, .dummy`
      split at h
      · obtain ⟨hkt, hf⟩ := Bool.and_eq_true_iff.mp h
        exact .jmp (by assumption) (of_decide_eq_true hkt) hf
      · cases h
    · -- `some K, .br .BEQ _, .dummy`
      exact .beq (eq_of_beq h)
    · -- `some K, .br .BNE _, .dummy`
      exact .bne (eq_of_beq h)
    · -- `some K, .ins .LDA o, .ins c .none`
      simp only [Bool.and_eq_true, Bool.or_eq_true, beq_iff_eq] at h
      obtain ⟨⟨⟨hc, hex⟩, ho1⟩, hp1⟩ := h
      exact .swap hc hex ho1 hp1
    · -- `some _, .ins c .none, .ins .LDA o`
      simp only [Bool.and_eq_true, Bool.or_eq_true, beq_iff_eq, decide_eq_true_eq] at h
      obtain ⟨⟨⟨hc, hk⟩, ho⟩, hp⟩ := h
      exact .second hc (.inr ⟨_, rfl⟩) ⟨hk, _, _, hc, hp, ho⟩
    · cases h

theorem Just.labAt {orig opt : VCode} {k : Nat} {K : Option Facts} {lo lp : VLine} (h : Just orig opt k K lo lp) :
    labAt lo = labAt lp := by
  cases h with
  | unreachable hl => exact hl
  | second _ hl => rcases hl with rfl | ⟨o, rfl⟩ <;> rfl
  | _ => rfl

structure Accepted (orig opt : VCode) : Prop where
  len : orig.length = opt.length
  line : ∀ k K lo lp, (factsOf orig)[k]? = some K → orig[k]? = some lo → opt[k]? = some lp → Just orig opt k K lo lp
  labs : ∀ l, findLab orig l = findLab opt l

theorem lineOKD_eq (orig opt : VCode) (k : Nat) (K : Option Facts) (lo lp : VLine) :
    lineOKD orig opt (deadTable opt) k K lo lp = lineOK orig opt k K lo lp := rfl

theorem accepted_of_validate (orig opt : VCode) (h : validate orig opt = true) : Accepted orig opt := by
  simp only [validate, Bool.and_eq_true, beq_iff_eq] at h
  obtain ⟨hlen, hc⟩ := h
  have hline : ∀ k K lo lp, (factsOf orig)[k]? = some K → orig[k]? = some lo → opt[k]? = some lp →
      Just orig opt k K lo lp := fun k K lo lp h1 h2 h3 =>
    just_of_lineOK (lineOKD_eq orig opt k K lo lp ▸ Nat.zero_add k ▸ checkFromD_line hc h1 h2 h3)
  refine ⟨hlen, hline, fun l => findLab_congr orig opt l hlen fun i lo lp h1 h2 => ?_⟩
  obtain ⟨Kp, hK⟩ := factsFrom_atLine _ h1
  exact (hline i _ lo lp hK h1 h2).labAt

theorem facts_label {orig : VCode} {t : Nat} {l : String} (h : orig[t]? = some (.lab l)) :
    (factsOf orig)[t]? = some (some Facts.top) :=
  (factsFrom_atLine _ h).elim fun _ h => h

/-- behind a first half `orig` has the flag instruction that `opt` has at the first half -/
theorem flag_behind_first {orig opt : VCode} (acc : Accepted orig opt) {k : Nat} (h : isFirst orig opt k) :
    ∃ c, (c = Mn.CLC ∨ c = Mn.SEC) ∧ opt[k]? = some (.ins c .none) ∧ orig[k + 1]? = some (.ins c .none) := by
  obtain ⟨c, o, hc, hp, ho⟩ := h
  obtain ⟨K, hK⟩ : ∃ K, (factsOf orig)[k]? = some K :=
    ⟨_, List.getElem?_eq_getElem (by rw [factsOf, factsFrom_length]; exact (List.getElem?_eq_some_iff.mp ho).1)⟩
  -- a load in `orig` where `opt` has a flag instruction is accepted as nothing else
  cases acc.line k K _ _ hK ho hp with
  | kept => rcases hc with h | h <;> cases h
  | second hc' => rcases hc' with h | h <;> cases h
  | swap _ _ ho1 => exact ⟨c, hc, hp, ho1⟩

end CV.Valid
