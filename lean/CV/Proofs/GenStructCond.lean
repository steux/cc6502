/-
  How emitted lines run (`Result`): a straight-line statement placed in code, and condition code. `CondRuns` says what
  a block of tests does wherever it is placed. Two tests in a row compose (`condSeqBoth`, `condSkipOver`); a single test
  is `testCode`, which runs as `test_runs` says once its straight-line part is known to leave the flags of a comparison
  (`FlagsOfCompare`).
-/
import CV.Proofs.GenRegLemmas
import CV.Proofs.GenRegNat
import CV.Proofs.GenStructLabels

namespace CV.GenStruct
open CV.GenFlat CV.GenReg

/-- a run of placed code from line `start` in state `s` to line `stop`: it leaves the source-visible state `m'`, the flag
    belief `fl` is true of the final state, SP is where it was -/
def Result (L : Layout) (code : List GLine) (start : Nat) (s : Cpu) (stop : Nat) (m' : SrcSt) (fl : Option FRef) : Prop :=
  ∃ s', Steps L code start s stop s' ∧ srcOf s' = m' ∧ FlagsInv L fl s' ∧ s'.sp = s.sp

theorem Placed.flat (L : Layout) {zp : String → Bool} {st : RStmt} {code : List GLine} {p : Nat}
    (hP : Placed code p (flatLines zp st)) {fl : Option FRef} {s : Cpu} (hinv : FlagsInv L fl s) :
    Result L code p s (p + (flatLines zp st).length) (rspec L (srcOf s) st) (flagsAfter zp fl st) := by
  obtain ⟨s', he, hm, hsp, hz⟩ := rflat_correct L zp st fl s hinv
  -- the operands the machine executes for the emitted lines are those of `rgenOps`
  rw [show rgenOps L zp st = _ from rtemplate_nat (opdOf L) none (fun a => some a) zp st] at he
  exact ⟨s', by simpa [flatLines] using Placed.steps_of_execSeq _ hP he, hm, hz, hsp⟩

/-- the operator as a test of the flags that comparing `a` with `b` left: Z = (a = b), C = (b ≤ a) -/
def COp.onFlags (op : COp) (f : Flags) : Bool :=
  match op with
  | .eq => f.z | .ne => !f.z | .lt => !f.c | .ge => f.c | .le => !f.c || f.z | .gt => f.c && !f.z

/-- on the flags a comparison of `a` with `b` leaves, the branches decide `op.eval a b`; `hc` is asked for the ordered
    operators only: `==` and `!=` look at Z alone -/
theorem COp.onFlags_eq (op : COp) (f : Flags) (a b : Byte) (hz : f.z = (a == b))
    (hc : op.ordered = true → f.c = decide (b.toNat ≤ a.toNat)) : op.onFlags f = op.eval a b := by
  have e : (a == b) = decide (a.toNat = b.toNat) := by
    rw [Bool.eq_iff_iff, beq_iff_eq, decide_eq_true_iff, BitVec.toNat_inj]
  cases op with
  | eq => exact hz
  | ne => exact congrArg (!·) hz
  | ge => exact hc rfl
  | lt => rw [COp.onFlags, hc rfl, COp.eval, Bool.eq_iff_iff]; simp
  | le =>
    rw [COp.onFlags, hc rfl, hz, e, COp.eval, Bool.eq_iff_iff]
    simp only [Bool.or_eq_true, Bool.not_eq_true', decide_eq_false_iff_not, decide_eq_true_eq]; omega
  | gt =>
    rw [COp.onFlags, hc rfl, hz, e, COp.eval, Bool.eq_iff_iff]
    simp only [Bool.and_eq_true, Bool.not_eq_true', decide_eq_false_iff_not, decide_eq_true_eq]; omega

theorem negate_eval (op : COp) (a b : Byte) : op.negate.eval a b = !op.eval a b := by
  cases op <;> simp [COp.negate, COp.eval, bne] <;> (rw [Bool.eq_iff_iff]; simp)

theorem mirror_eval (op : COp) (a b : Byte) : op.mirror.eval b a = op.eval a b := by
  cases op <;> simp [COp.mirror, COp.eval, bne]
  · rw [Bool.eq_iff_iff]; simp; exact eq_comm
  · rw [Bool.eq_iff_iff]; simp; constructor <;> (intro h; exact h.symm)

theorem finalOp_eval (op : COp) (negate switch : Bool) (a b : Byte) :
    (finalOp op negate switch).eval a b = ((if switch then op.eval b a else op.eval a b) != negate) := by
  cases negate <;> cases switch <;> simp [finalOp, mirror_eval, negate_eval]

theorem isZero_val (L : Layout) (m : Mem) (x y : Byte) (a : Atom) (h : RA.isZero (.of a) = true) : val L m x y a = 0 := by
  cases a with
  | var _ => simp [RA.isZero] at h
  | el _ _ => simp [RA.isZero] at h
  | const n => simpa [RA.isZero, val] using h

theorem branchInstr_steps (L : Layout) {code : List GLine} {p : Nat} {g : GState} {op : COp} {label : Lbl} (s : Cpu) {t : Nat}
    (hP : Placed code p (branchInstr g op label).1) (hl : findLbl code label = some t) :
    Steps L code p s (if op.onFlags s.f then t else p + (branchInstr g op label).1.length) s := by
  cases op with
  | ne => exact Steps.br hP.head rfl hl
  | eq => exact Steps.br hP.head rfl hl
  | lt => exact Steps.br hP.head rfl hl
  | ge => exact Steps.br hP.head rfl hl
  | le =>
    have b1 : Steps L code p s (if !s.f.c then t else p + 1) s := Steps.br hP.head rfl hl
    have b2 : Steps L code (p + 1) s (if s.f.z then t else p + 1 + 1) s := Steps.br hP.tail.head rfl hl
    show Steps L code p s (if (!s.f.c || s.f.z) then t else p + 2) s
    generalize s.f.c = c, s.f.z = z at b1 b2 ⊢
    cases c
    · exact b1
    · exact b1.trans (by cases z <;> exact b2)
  | gt =>
    -- `BEQ .ifhere ; BCS label ; .ifhere:`
    have b1 : Steps L code p s (if s.f.z then p + 2 else p + 1) s := Steps.br hP.head rfl (hP.lbl 2 _ rfl)
    have b2 : Steps L code (p + 1) s (if s.f.c then t else p + 1 + 1) s := Steps.br hP.tail.head rfl hl
    have b3 : Steps L code (p + 2) s (p + 3) s := Steps.lab hP.tail.tail.head
    show Steps L code p s (if (s.f.c && !s.f.z) then t else p + 3) s
    generalize s.f.c = c, s.f.z = z at b1 b2 ⊢
    cases z
    · cases c
      · exact (b1.trans b2).trans b3
      · exact b1.trans b2
    · rw [Bool.not_true, Bool.and_false]; exact b1.trans b3

theorem branchInstr_flagsInv {L : Layout} {s : Cpu} (g : GState) (op : COp) (label : Lbl) (h : FlagsInv L g.flags s) :
    FlagsInv L (branchInstr g op label).2.flags s := by
  cases op <;> first | exact h | trivial

/-- the block `blk`, placed anywhere and entered with flag belief `fl`, ends at `label` when `jumpIf` holds and right
    behind itself otherwise; on the jumping exit the belief `fl'` is claimed only when a `single` test jumps there
    (several tests that jump to the same label arrive with different flags) -/
def CondRuns (L : Layout) (fl : Option FRef) (blk : List GLine) (fl' : Option FRef) (label : Lbl) (single : Bool)
    (jumpIf : SrcSt → Bool) (eff : SrcSt → SrcSt) : Prop :=
  ∀ ⦃code : List GLine⦄ ⦃p : Nat⦄ ⦃s : Cpu⦄ ⦃t : Nat⦄, Placed code p blk → FlagsInv L fl s → findLbl code label = some t →
    Result L code p s (if jumpIf (srcOf s) then t else p + blk.length) (eff (srcOf s))
      (if jumpIf (srcOf s) && !single then none else fl')

section
variable {L : Layout} {fl fl' : Option FRef} {blk : List GLine} {label : Lbl} {single : Bool} {j j' : SrcSt → Bool}
  {e e' : SrcSt → SrcSt}

theorem CondRuns.congr (hj : ∀ σ, j σ = j' σ) (he : ∀ σ, e σ = e' σ)
    (h : CondRuns L fl blk fl' label single j e) : CondRuns L fl blk fl' label single j' e' := by
  rw [← funext hj, ← funext he]; exact h

theorem CondRuns.single_of_none (h : CondRuns L fl blk none label single j e) :
    CondRuns L fl blk none label true j e := by
  intro code p s t hP hinv hl
  obtain ⟨s', hs, hm, -, hsp⟩ := h hP hinv hl
  exact ⟨s', hs, hm, by simp, hsp⟩

end

section
variable {L : Layout} {fl fa fb : Option FRef} {a b : List GLine} {label : Lbl} {sa sb : Bool} {ja jb : SrcSt → Bool}
  {ea eb : SrcSt → SrcSt}

/-- two tests in a row that jump to the same label: `a && b` when jumping on false, `a || b` when jumping on true -/
theorem condSeqBoth (ha : CondRuns L fl a fa label sa ja ea) (hb : CondRuns L fa b fb label sb jb eb) :
    CondRuns L fl (a ++ b) fb label false (fun σ => ja σ || jb (ea σ)) (fun σ => if ja σ then ea σ else eb (ea σ)) := by
  intro code p s t hP hinv hl
  rw [List.length_append, ← Nat.add_assoc]
  obtain ⟨s1, hs1, hm1, hf1, hsp1⟩ := ha hP.left hinv hl
  cases hja : ja (srcOf s) <;> simp only [hja, if_true, Bool.false_eq_true, if_false, Bool.false_and] at hs1 hf1
  · obtain ⟨s2, hs2, hm2, hf2, hsp2⟩ := hb hP.right hf1 hl
    rw [hm1] at hs2 hm2 hf2
    refine ⟨s2, by simpa only [hja, Bool.false_or] using hs1.trans hs2, by simpa [hja] using hm2, ?_, hsp2.trans hsp1⟩
    cases hjb : jb (ea (srcOf s)) <;> simp [hja, hjb] at hf2 ⊢; exact hf2
  · exact ⟨s1, by simpa [hja] using hs1, by simpa [hja] using hm1, by simp [hja], hsp1⟩

/-- a first test that jumps over the second one to a label `st` behind it: `a && b` when jumping on true, `a || b`
    when jumping on false -/
theorem condSkipOver {st : Lbl} (ha : CondRuns L fl a fa st sa ja ea) (hb : CondRuns L fa b fb label sb jb eb) :
    CondRuns L fl (a ++ b ++ [.lab st]) none label false (fun σ => !ja σ && jb (ea σ))
      (fun σ => if ja σ then ea σ else eb (ea σ)) := by
  intro code p s t hP hinv hl
  rw [List.length_append, List.length_append, List.length_singleton, ← Nat.add_assoc, ← Nat.add_assoc]
  -- a ++ (b ++ [lab st])
  rw [List.append_assoc] at hP
  have hPl := hP.right.right
  obtain ⟨s1, hs1, hm1, hf1, hsp1⟩ := ha hP.left hinv hPl.find
  cases hja : ja (srcOf s) <;> simp only [hja, if_true, Bool.false_eq_true, if_false, Bool.false_and] at hs1 hf1
  · obtain ⟨s2, hs2, hm2, -, hsp2⟩ := hb hP.right.left hf1 hl
    rw [hm1] at hs2 hm2
    refine ⟨s2, ?_, by simpa [hja] using hm2, by simp, hsp2.trans hsp1⟩
    cases hjb : jb (ea (srcOf s)) <;> simp only [hjb, if_true, Bool.false_eq_true, if_false] at hs2
    · simpa only [hja, hjb, Bool.not_false, Bool.and_false, Bool.false_eq_true, if_false] using (hs1.trans hs2).trans (hPl.stepLab s2)
    · simpa only [hja, hjb, Bool.not_false, Bool.and_true, if_true] using hs1.trans hs2
  · exact ⟨s1, by simpa only [hja, Bool.not_true, Bool.false_and, Bool.false_eq_true, if_false] using hs1.trans (hPl.stepLab s1),
      by simpa [hja] using hm1, by simp, hsp1⟩

end

/-- the straight-line part `ops` of a test leaves the flags of comparing `a` with `b`; C only when the operator is an
    ordered one (`==` / `!=` do not look at C, and not every test sets it) -/
structure FlagsOfCompare (L : Layout) (ops : List (Mn × Option Atom)) (ordered : Bool) (fl : Option FRef) (s : Cpu)
    (a b : Byte) (σ' : SrcSt) (s1 : Cpu) : Prop where
  run : execSeq s (ops.map fun q => (q.1, opdOf L q.2)) = some s1
  src : srcOf s1 = σ'
  sp : s1.sp = s.sp
  z : s1.f.z = (a == b)
  c : ordered = true → s1.f.c = decide (b.toNat ≤ a.toNat)
  belief : FlagsInv L fl s1

theorem test_runs (L : Layout) {ops : List (Mn × Option Atom)} {g : GState} {op : COp} {label : Lbl} {fl : Option FRef}
    (a b : SrcSt → Byte) (eff : SrcSt → SrcSt)
    (hops : ∀ s, FlagsInv L fl s →
      ∃ s1, FlagsOfCompare L ops op.ordered g.flags s (a (srcOf s)) (b (srcOf s)) (eff (srcOf s)) s1) :
    CondRuns L fl (testCode ops g op label).1 (testCode ops g op label).2.flags label true (fun σ => op.eval (a σ) (b σ)) eff := by
  intro code p s t hP hinv hl
  obtain ⟨s1, h⟩ := hops s hinv
  refine ⟨s1, ?_, h.src, by simpa [testCode] using branchInstr_flagsInv g op label h.belief, h.sp⟩
  have h2 := branchInstr_steps L s1 hP.right hl
  rw [COp.onFlags_eq op s1.f _ _ h.z h.c, List.length_map] at h2
  rw [testCode, List.length_append, List.length_map, ← Nat.add_assoc]
  exact (Placed.steps_of_execSeq ops hP.left h.run).trans h2

theorem loadRef_exec (L : Layout) (ref : LV) (s : Cpu) :
    ∃ s1, s.exec (loadRefMn ref) (opdOf L (some (loadRefOp ref))) = some s1 ∧ srcOf s1 = srcOf s ∧ s1.sp = s.sp ∧
      s1.f.z = (rval L (srcOf s) ref.ra == 0) := by
  cases ref with
  | var v => exact ⟨_, exec_LDA s _ _ (rd_opd L s (.var v)), rfl, rfl, rfl⟩
  | el t i => exact ⟨_, exec_LDA s _ _ (rd_opd L s (.el t i)), rfl, rfl, rfl⟩
  | x => exact ⟨_, rfl, rfl, rfl, Cpu.cmp_z s s.x 0⟩
  | y => exact ⟨_, rfl, rfl, rfl, Cpu.cmp_z s s.y 0⟩

theorem zeroTest_runs (L : Layout) (g : GState) (ref : LV) (op : COp) (label : Lbl) (hop : op.ordered = false) :
    CondRuns L g.flags (zeroTest g ref op label).1 (zeroTest g ref op label).2.flags label true
      (fun σ => op.eval (rval L σ ref.ra) 0) (fun σ => σ) := by
  rw [zeroTest_eq, if_neg (by simp [hop])]
  by_cases hf : g.flags = some ref
  · rw [if_pos hf]
    refine test_runs L (fun σ => rval L σ ref.ra) (fun _ => 0) _ fun s hinv => ?_
    have hz := hinv
    rw [hf, flagsInv_some] at hz
    exact ⟨s, { run := rfl, src := rfl, sp := rfl, z := hz, c := (fun h => nomatch hop.symm.trans h), belief := hinv }⟩
  · rw [if_neg hf]
    refine test_runs L (fun σ => rval L σ ref.ra) (fun _ => 0) _ fun s _ => ?_
    obtain ⟨s1, he, hsrc, hsp, hz⟩ := loadRef_exec L ref s
    exact ⟨s1, {
      run := by simp [execSeq, he], src := hsrc, sp := hsp, z := hz, c := (fun h => nomatch hop.symm.trans h),
      belief := (flagsInv_some L ref s1).mpr (by rw [hsrc]; exact hz) }⟩

theorem cmpOps_compares (L : Layout) (left : LV) (right : Atom) (ordered : Bool) (s : Cpu) :
    ∃ s2, FlagsOfCompare L (cmpOps left right) ordered none s (rval L (srcOf s) left.ra) (val L s.mem s.x s.y right)
      (srcOf s) s2 := by
  unfold cmpOps
  split
  · next h =>
    cases left with
    | x => exact ⟨_, { run := execSeq_cons (exec_CPX s _ _ (rd_opd L s right)) [], src := rfl, sp := rfl,
                       z := Cpu.cmp_z _ _ _, c := fun _ => rfl, belief := trivial }⟩
    | y => exact ⟨_, { run := execSeq_cons (exec_CPY s _ _ (rd_opd L s right)) [], src := rfl, sp := rfl,
                       z := Cpu.cmp_z _ _ _, c := fun _ => rfl, belief := trivial }⟩
    | _ => cases h
  · obtain ⟨s1, h1, hm, ha, -⟩ := loadA_computes L s left.ra
    have hv : val L s1.mem s1.x s1.y right = val L s.mem s.x s.y right :=
      congrArg (fun σ : SrcSt => val L σ.mem σ.x σ.y right) hm
    refine ⟨s1.cmp s1.a (val L s1.mem s1.x s1.y right),
      { run := ?_, src := hm, sp := congrArg SrcSt.sp hm, z := ?_, c := fun _ => ?_, belief := trivial }⟩
    · rw [List.map_append, ← loadA_nat (opdOf L), execSeq_append]
      exact (congrArg (Option.bind · _) h1).trans (execSeq_cons (exec_CMP s1 _ _ (rd_opd L s1 right)) [])
    · rw [Cpu.cmp_z, hv]; exact congrArg (· == _) ha
    · rw [← hv]; exact congrArg (fun a : Byte => decide (_ ≤ a.toNat)) ha

theorem cmpTest_runs (L : Layout) (g : GState) (left : LV) (right : Atom) (op : COp) (label : Lbl) :
    CondRuns L g.flags (cmpTest g left right op label).1 (cmpTest g left right op label).2.flags label true
      (fun σ => op.eval (rval L σ left.ra) (val L σ.mem σ.x σ.y right)) (fun σ => σ) := by
  rw [cmpTest_eq]
  exact test_runs L _ _ _ fun s _ => cmpOps_compares L left right op.ordered s

theorem genCondEx_runs (L : Layout) (g : GState) (l r : RA) (op : COp) (negate : Bool) (label : Lbl)
    (hok : CondOK (.cmp op l r) = true) :
    CondRuns L g.flags (genCondEx g l r op negate label).1 (genCondEx g l r op negate label).2.flags label true
      (fun σ => op.eval (rval L σ l) (rval L σ r) != negate) (fun σ => σ) := by
  -- `CondOK` unfolds by computation; `simp only [CondOK]` would have all its equations proved first
  have hok : (!(l.isConst && r.isConst) && !(l.isReg && r.isReg) && !(op.ordered && (RA.isZero l || RA.isZero r)) && !_) = true :=
    hok
  simp only [Bool.and_eq_true, Bool.not_eq_true'] at hok
  obtain ⟨⟨⟨hcc, hrr⟩, hord⟩, -⟩ := hok
  obtain ⟨left, right, sw, ho, hl, hr⟩ := orient_spec l r hcc hrr
  have key : ∀ σ, (finalOp op negate sw).eval (rval L σ left.ra) (val L σ.mem σ.x σ.y right) =
      (op.eval (rval L σ l) (rval L σ r) != negate) := by
    intro σ
    rw [finalOp_eval, hl, show val L σ.mem σ.x σ.y right = rval L σ (.of right) from rfl, hr]
    cases sw <;> rfl
  rw [genCondEx_eq g l r op negate label left right sw ho]
  split
  · next hc =>
    -- literal 0 on the right: the operator is `==` or `!=`
    have hz : RA.isZero (.of right) = true := ((Bool.and_eq_true _ _).mp hc).1
    have hlr : (RA.isZero l || RA.isZero r) = true := by
      rw [hr] at hz
      cases sw
      · exact (Bool.or_eq_true _ _).mpr (.inr hz)
      · exact (Bool.or_eq_true _ _).mpr (.inl hz)
    have hun : (finalOp op negate sw).ordered = false := by
      rw [finalOp_ordered]; simpa [hlr] using hord
    exact (zeroTest_runs L g left _ label hun).congr (fun σ => by rw [← key, isZero_val L σ.mem σ.x σ.y right hz]) fun _ => rfl
  · exact (cmpTest_runs L g left right _ label).congr key fun _ => rfl

theorem treeOps_exec (L : Layout) (e : GExpr) (hok : e.ok = true) (s : Cpu) :
    ∃ s', execSeq s ((treeOps e).map fun p => (p.1, opdOf L p.2)) = some s' ∧ srcOf s' = (treeRun L (srcOf s) e).2 ∧ s'.sp = s.sp ∧
      s'.a = (treeRun L (srcOf s) e).1 ∧ ZA s' := by
  obtain ⟨c, st', hg⟩ := (e.ok_iff (none : Option Atom) (fun a => some a)).1 hok
  have hg' : genE Opd.none (opd L) {} e = some (c.map (fun p => (p.1, opdOf L p.2)), .acc, st') :=
    (genE_nat (opdOf L) (none : Option Atom) (fun a => some a) e {}).trans (by rw [hg]; rfl)
  obtain ⟨⟨σq, aq⟩, h0, ⟨s', ex, hm, ha, hz⟩, hsp⟩ := tree_computes L e _ st' hg' s
  have hto : treeOps e = c := by unfold treeOps; rw [hg]
  have hrun : treeRun L (srcOf s) e = (aq, σq) := by unfold treeRun; rw [h0]
  exact ⟨s', by rw [hto]; exact ex, by rw [hrun]; exact hm, (congrArg SrcSt.sp hm).trans hsp, by rw [hrun]; exact ha, hz⟩

/-- the code of a tree, then `CMP b` unless `zero`, leaves the flags of comparing the tree's value with `b`. Without the
    compare Z describes A, which is the comparison with a `b` that is 0 (`h0`), and C is not set: hence `hord` -/
theorem treeCmp_compares (L : Layout) (e : GExpr) (hok : e.ok = true) (b : Atom) (zero ordered : Bool)
    (h0 : zero = true → ∀ m x y, val L m x y b = 0) (hord : ordered = true → zero = false) (s : Cpu) :
    ∃ s2, FlagsOfCompare L (treeOps e ++ if zero then [] else [(Mn.CMP, some b)]) ordered none s (treeRun L (srcOf s) e).1
      (val L (treeRun L (srcOf s) e).2.mem (treeRun L (srcOf s) e).2.x (treeRun L (srcOf s) e).2.y b)
      (treeRun L (srcOf s) e).2 s2 := by
  obtain ⟨s1, he, hsrc, hsp, ha, hza⟩ := treeOps_exec L e hok s
  rw [← hsrc, ← ha]
  cases zero with
  | true =>
    exact ⟨s1, {
      run := by simpa using he, src := rfl, sp := hsp, z := by rw [h0 rfl]; exact hza,
      c := (fun h => nomatch hord h), belief := trivial }⟩
  | false =>
    refine ⟨s1.cmp s1.a (val L s1.mem s1.x s1.y b),
      { run := ?_, src := rfl, sp := hsp, z := Cpu.cmp_z .., c := fun _ => rfl, belief := trivial }⟩
    rw [if_neg Bool.false_ne_true, List.map_append, execSeq_append, he]
    exact execSeq_cons (exec_CMP s1 _ _ (rd_opd L s1 b)) []

theorem cmpETest_runs (L : Layout) (g : GState) (op : COp) (e : GExpr) (b : Atom) (eLeft negate : Bool) (label : Lbl)
    (hok : e.ok = true) (hz0 : (op.ordered && RA.isZero (.of b)) = false) :
    CondRuns L g.flags (cmpETest g op e b eLeft negate label).1 (cmpETest g op e b eLeft negate label).2.flags label true
      (fun σ => evalCond L σ (.cmpE op e b eLeft) != negate) (fun σ => (treeRun L σ e).2) := by
  rw [cmpETest_eq, if_neg (by simp [hz0])]
  refine (test_runs L (fun σ => (treeRun L σ e).1)
    (fun σ => val L (treeRun L σ e).2.mem (treeRun L σ e).2.x (treeRun L σ e).2.y b) _ fun s _ => ?_).congr ?_ fun _ => rfl
  · refine treeCmp_compares L e hok b (RA.isZero (.of b)) _ (fun h m x y => isZero_val L m x y b h) (fun hord => ?_) s
    rw [finalOp_ordered] at hord
    simpa [hord] using hz0
  · intro σ
    rw [finalOp_eval, evalCond_cmpE]
    cases eLeft <;> rfl

theorem truthETest_runs (L : Layout) (g : GState) (e : GExpr) (negate : Bool) (label : Lbl) (hok : e.ok = true) :
    CondRuns L g.flags (truthETest g e negate label).1 (truthETest g e negate label).2.flags label true
      (fun σ => evalCond L σ (.truthE e) != negate) (fun σ => (treeRun L σ e).2) := by
  rw [truthETest_eq]
  refine (test_runs L (fun σ => (treeRun L σ e).1) (fun _ => 0) _ fun s _ => ?_).congr ?_ fun _ => rfl
  · exact treeCmp_compares L e hok (.const 0) e.topArithm _ (fun _ _ _ _ => rfl) (fun hord => by cases negate <;> cases hord) s
  · exact fun σ => finalOp_eval .ne negate false _ 0

theorem cmpRTest_runs (L : Layout) (g : GState) (op : COp) (e : GExpr) (y eLeft negate : Bool) (label : Lbl)
    (hok : e.ok = true) :
    CondRuns L g.flags (cmpRTest g op e y eLeft negate label).1 (cmpRTest g op e y eLeft negate label).2.flags label true
      (fun σ => evalCond L σ (.cmpR op e y eLeft) != negate) (fun σ => setTmp L (treeRun L σ e).2 (treeRun L σ e).1) := by
  rw [cmpRTest_eq]
  refine (test_runs L (fun σ => if y then (treeRun L σ e).2.y else (treeRun L σ e).2.x) (fun σ => (treeRun L σ e).1) _
    fun s _ => ?_).congr ?_ fun _ => rfl
  · obtain ⟨s1, he, hsrc, hsp, ha, -⟩ := treeOps_exec L e hok s
    rw [← hsrc, ← ha]
    refine ⟨({ s1 with mem := s1.mem.write (L "cctmp") s1.a } : Cpu).cmp (if y then s1.y else s1.x) s1.a,
      { run := ?_, src := rfl, sp := hsp, z := Cpu.cmp_z .., c := fun _ => rfl, belief := trivial }⟩
    rw [List.map_append, execSeq_append, he]
    refine (execSeq_cons (exec_STA s1 (opd L tmp) (L "cctmp") rfl) _).trans ?_
    cases y
    · exact execSeq_cons (exec_CPX _ _ _ (rd_tmp_after_write L s1 s1.a)) []
    · exact execSeq_cons (exec_CPY _ _ _ (rd_tmp_after_write L s1 s1.a)) []
  · exact fun σ => finalOp_eval op negate eLeft _ _

/-- the high difference of the two byte passes, as `wcmpRun` computes it -/
def wcmpHi (L : Layout) (σ : SrcSt) (s : String) (w : WA) : Byte :=
  let lr := lowRes .sub (σ.mem.read (L s)) (val L σ.mem σ.x σ.y w.lo)
  let σ1 := setTmp L σ lr.1
  highRes .sub lr.2 (val L σ1.mem σ1.x σ1.y (hiCell s)) (val L σ1.mem σ1.x σ1.y w.hi)

theorem wcmpRun_fst (L : Layout) (σ : SrcSt) (s : String) (w : WA) :
    (wcmpRun L σ s w).1 = (wcmpHi L σ s w != 0 || (wcmpRun L σ s w).2.mem.read (L "cctmp") != 0) := by
  simp only [wcmpRun, wcmpHi]

theorem wcmpPre_computes (L : Layout) (s : String) (w : WA) (c : Cpu) :
    Computes c ((wcmpPre s w).map fun p => (p.1, opdOf L p.2)) ((wcmpRun L (srcOf c) s w).2, wcmpHi L (srcOf c) s w) := by
  unfold wcmpPre
  split
  · -- against literal 0: the bytes themselves
    next hw =>
    obtain rfl : w = .wconst 0 := by simpa using hw
    refine .cons (exec_LDA c _ _ (rd_opd L c (.var s))) (.cons (exec_STA _ (opd L tmp) (L "cctmp") rfl)
      (.cons (exec_LDA _ _ _ (rd_opd L _ (hiCell s))) ⟨_, rfl, ?_, ?_, rfl⟩))
    · simp [srcOf, wcmpRun, lowRes, setTmp, WA.lo, val]
    · simp [srcOf, wcmpHi, lowRes, highRes, setTmp, WA.lo, WA.hi, val]
  · obtain ⟨c1, e1, hsrc, cf1⟩ := lowPass_exec L c "cctmp" .sub (.var s) w.lo true nofun
    change srcOf c1 = (wcmpRun L (srcOf c) s w).2 at hsrc
    obtain ⟨c2, e2, m2, a2, z2⟩ := ldaOp_computes L c1 .sub (hiCell s) w.hi
    refine ⟨c2, execSeq_trans e1 e2, m2.trans hsrc, ?_, z2⟩
    rw [a2, cf1 (.inr rfl), hsrc]; rfl

theorem wcmpTest_runs (L : Layout) (g : GState) (ne : Bool) (s : String) (w : WA) (negate : Bool) (label : Lbl) :
    CondRuns L g.flags (wcmpTest g ne s w negate label).1 (wcmpTest g ne s w negate label).2.flags label true
      (fun σ => evalCond L σ (.wcmp ne s w) != negate) (fun σ => (wcmpRun L σ s w).2) := by
  -- the test of the high difference (in A after the passes) and the test of the low one (`LDA cctmp`); neither looks at C
  have hi : ∀ (g' : GState) (lab : Lbl), CondRuns L g.flags (testCode (wcmpPre s w) { g' with flags := none } .ne lab).1 none lab true
      (fun σ => wcmpHi L σ s w != 0) (fun σ => (wcmpRun L σ s w).2) := fun g' lab =>
    test_runs L (fun σ => wcmpHi L σ s w) (fun _ => 0) _ fun c _ => by
      obtain ⟨c2, he, hsrc, ha, hz⟩ := wcmpPre_computes L s w c
      exact ⟨c2, {
        run := he, src := hsrc, sp := congrArg SrcSt.sp hsrc, z := hz.trans (congrArg (· == 0) ha),
        c := (fun h => nomatch h), belief := trivial }⟩
  have lo : ∀ (g' : GState) (op : COp), op.ordered = false →
      CondRuns L none (testCode [(.LDA, some tmp)] { g' with flags := none } op label).1
        (testCode [(.LDA, some tmp)] { g' with flags := none } op label).2.flags label true
        (fun σ => op.eval (σ.mem.read (L "cctmp")) 0) (fun σ => σ) := fun g' op hop =>
    test_runs L (fun σ => σ.mem.read (L "cctmp")) (fun _ => 0) (fun σ => σ) fun c _ =>
      ⟨_, {
        run := execSeq_cons (exec_LDA c _ _ (rd_opd L c tmp)) [], src := rfl, sp := rfl, z := rfl,
        c := (fun h => nomatch hop.symm.trans h), belief := trivial }⟩
  have hj : ∀ σ, (evalCond L σ (.wcmp ne s w) != negate) =
      if (ne != negate) then (wcmpRun L σ s w).1 else !(wcmpRun L σ s w).1 := by
    intro σ; cases ne <;> cases negate <;> simp
  rw [wcmpTest_eq]
  split
  · next h =>
    refine (condSeqBoth (hi g label) (lo g .ne rfl)).single_of_none.congr (fun σ => ?_) fun σ => ite_self _
    rw [hj, if_pos h, wcmpRun_fst]; rfl
  · next h =>
    refine (condSkipOver (hi { g with cIf := g.cIf + 1 } _) (lo { g with cIf := g.cIf + 1 } .eq rfl)).single_of_none.congr
      (fun σ => ?_) fun σ => ite_self _
    rw [hj, if_neg h, wcmpRun_fst]
    simp only [COp.eval, Bool.not_or, bne, Bool.not_not]

theorem genCond_runs (L : Layout) (c : Cond) : ∀ (g : GState) (negate : Bool) (label : Lbl), CondOK c = true →
    CondRuns L g.flags (genCond g c negate label).1 (genCond g c negate label).2.flags label c.singleExit
      (fun σ => evalCond L σ c != negate) (fun σ => condEff L σ c) := by
  induction c with
  | cmp op a b => intro g negate label hok; exact genCondEx_runs L g a b op negate label hok
  | truth v =>
    intro g negate label _
    exact (zeroTest_runs L g v (finalOp .ne negate false) label (finalOp_ordered ..)).congr
      (fun σ => finalOp_eval .ne negate false _ 0) fun _ => rfl
  | nottruth v =>
    intro g negate label _
    exact (zeroTest_runs L g v (finalOp .eq negate false) label (finalOp_ordered ..)).congr
      (fun σ => finalOp_eval .eq negate false _ 0) fun _ => rfl
  | cmpE op e b eLeft =>
    intro g negate label hok
    have hok : (e.ok && !(op.ordered && RA.isZero (.of b))) = true := hok
    simp only [Bool.and_eq_true, Bool.not_eq_true'] at hok
    exact cmpETest_runs L g op e b eLeft negate label hok.1 hok.2
  | truthE e => intro g negate label hok; exact truthETest_runs L g e negate label hok
  | cmpR op e y eLeft =>
    intro g negate label hok
    exact cmpRTest_runs L g op e y eLeft negate label ((Bool.and_eq_true _ _).mp hok).1
  | wcmp ne s w => intro g negate label _; exact wcmpTest_runs L g ne s w negate label
  | not c ih =>
    intro g negate label hok
    exact (ih g (!negate) label hok).congr (fun σ => by simp) fun _ => rfl
  | and a b iha ihb =>
    intro g negate label hok
    have hok : CondOK a = true ∧ CondOK b = true := (Bool.and_eq_true _ _).mp hok
    cases negate with
    | true =>
      exact (condSeqBoth (iha g true label hok.1) (ihb _ true label hok.2)).congr (fun σ => by simp)
        fun σ => by cases h : evalCond L σ a <;> simp [h]
    | false =>
      exact (condSkipOver (iha { g with cIf := g.cIf + 1 } true ⟨.ifstart, g.cIf⟩ hok.1) (ihb _ false label hok.2)).congr
        (fun σ => by simp) fun σ => by cases h : evalCond L σ a <;> simp [h]
  | or a b iha ihb =>
    intro g negate label hok
    have hok : CondOK a = true ∧ CondOK b = true := (Bool.and_eq_true _ _).mp hok
    cases negate with
    | false =>
      exact (condSeqBoth (iha g false label hok.1) (ihb _ false label hok.2)).congr (fun σ => by simp)
        fun σ => by cases h : evalCond L σ a <;> simp [h]
    | true =>
      exact (condSkipOver (iha { g with cIf := g.cIf + 1 } false ⟨.ifstart, g.cIf⟩ hok.1) (ihb _ true label hok.2)).congr
        (fun σ => by simp) fun σ => by cases h : evalCond L σ a <;> simp [h]

/-- `CondRuns` for code generated at `g` behind older code, the belief about the flags claimed on both exits -/
def CondSpec (L : Layout) (g : GState) (r : List GLine × GState) (label : Lbl) (jumpIf : SrcSt → Bool)
    (eff : SrcSt → SrcSt := fun m => m) : Prop :=
  ∀ (pre post : List GLine) (s : Cpu) (t : Nat), Old g pre → FlagsInv L g.flags s →
    findLbl (pre ++ r.1 ++ post) label = some t →
    ∃ s', Steps L (pre ++ r.1 ++ post) pre.length s (if jumpIf (srcOf s) then t else pre.length + r.1.length) s' ∧
      srcOf s' = eff (srcOf s) ∧ s'.sp = s.sp ∧ FlagsInv L r.2.flags s'

/-- as `CondSpec`, except that on the jumping exit the belief is claimed only when a single test jumps there -/
def CondSpecM (L : Layout) (g : GState) (r : List GLine × GState) (label : Lbl) (single : Bool) (jumpIf : SrcSt → Bool)
    (eff : SrcSt → SrcSt) : Prop :=
  ∀ (pre post : List GLine) (s : Cpu) (t : Nat), Old g pre → FlagsInv L g.flags s →
    findLbl (pre ++ r.1 ++ post) label = some t →
    ∃ s', Steps L (pre ++ r.1 ++ post) pre.length s (if jumpIf (srcOf s) then t else pre.length + r.1.length) s' ∧
      srcOf s' = eff (srcOf s) ∧ s'.sp = s.sp ∧
      FlagsInv L (if jumpIf (srcOf s) && !single then none else r.2.flags) s'

theorem genCond_correct (L : Layout) (c : Cond) : ∀ (g : GState) (negate : Bool) (label : Lbl), CondOK c = true →
    CondSpecM L g (genCond g c negate label) label c.singleExit (fun m => evalCond L m c != negate) (fun m => condEff L m c) :=
  fun g negate label hok _ post _ _ hold hinv hl =>
    let ⟨s', hs, hm, hf, hsp⟩ := genCond_runs L c g negate label hok ((genCond_tidy ..).placed post hold) hinv hl
    ⟨s', hs, hm, hsp, hf⟩

theorem wcmpTest_correct (L : Layout) (g : GState) (ne : Bool) (s : String) (w : WA) (negate : Bool) (label : Lbl) :
    CondSpec L g (wcmpTest g ne s w negate label) label (fun m => evalCond L m (.wcmp ne s w) != negate)
      (fun m => (wcmpRun L m s w).2) := by
  intro pre post c t hold hinv hl
  obtain ⟨s', hs, hm, hf, hsp⟩ := wcmpTest_runs L g ne s w negate label ((wcmpTest_tidy ..).placed post hold) hinv hl
  exact ⟨s', hs, hm, hsp, by simpa using hf⟩

end CV.GenStruct
