/-
  What the instructions the validator reasons about do, as equations: the loads, transfers and stores by the register
  they are about (`setReg`), `INC`, `DEC` and the shifts of a memory cell as one `Option.map` over the address. An
  instruction whose operand fits it is not stuck (`execOK_some`); a load of A commutes with `CLC` / `SEC`
  (`lda_flag_comm`).
-/
import CV.Valid
namespace CV.Valid

theorem ea_frame (s s' : Cpu) (o : Opd) (hm : s'.mem = s.mem)
    (hx : Opd.usesX o = true → s'.x = s.x) (hy : Opd.usesY o = true → s'.y = s.y) : s'.ea o = s.ea o := by
  cases o <;> simp only [Cpu.ea, hm] <;> first | rw [hx rfl] | rw [hy rfl]

theorem rd_frame (s s' : Cpu) (o : Opd) (hm : s'.mem = s.mem)
    (hx : Opd.usesX o = true → s'.x = s.x) (hy : Opd.usesY o = true → s'.y = s.y) : s'.rd o = s.rd o := by
  have := ea_frame s s' o hm hx hy
  cases o <;> simp only [Cpu.rd, this, hm]

theorem rd_of_ea {s : Cpu} {o : Opd} {ad : Word} (h : s.ea o = some ad) : s.rd o = some (s.mem.read ad) := by
  cases o <;> first | exact congrArg (Option.map s.mem.read) h | cases h

/-- only for a direct operand: a store through an indirect one may overwrite its own pointer -/
theorem rd_store {s : Cpu} {o : Opd} {ad : Word} (w : Byte) (hd : Opd.direct o = true) (hea : s.ea o = some ad) :
    Cpu.rd { s with mem := s.mem.write ad w } o = some w := by
  have hea' : Cpu.ea { s with mem := s.mem.write ad w } o = some ad := by
    cases o <;> first | exact absurd hd Bool.false_ne_true | exact hea
  rw [rd_of_ea hea']; exact congrArg some (Mem.read_write_same _ _ _)

theorem execOK_some (s : Cpu) (mn : Mn) (o : Opd) (h : execOK mn o = true) : ∃ s', s.exec mn o = some s' := by
  -- `execOK` asks the same of the operand of every instruction that reads it, and of every one that stores to it
  have readable : execOK .LDA o = true → ∃ v, s.rd o = some v := fun h => by
    cases o <;> first | exact ⟨_, rfl⟩ | cases h
  have addressable : execOK .STA o = true → ∃ ad, s.ea o = some ad := fun h => by
    cases o <;> first | exact ⟨_, rfl⟩ | cases h
  cases mn
  case LDA | LDX | LDY | ORA | CMP | CPX | CPY => obtain ⟨v, hv⟩ := readable h; exact ⟨_, congrArg (Option.map _) hv⟩
  case STA | STX | STY => obtain ⟨ad, had⟩ := addressable h; exact ⟨_, congrArg (Option.map _) had⟩
  case TAX | TAY | TXA | TYA | CLC | SEC => exact ⟨_, rfl⟩
  all_goals exact absurd h Bool.false_ne_true

theorem exec_inc (s : Cpu) (o : Opd) : s.exec .INC o = (s.ea o).map fun a =>
    { s with mem := s.mem.write a (s.mem.read a + 1), f := Cpu.setNZ s.f (s.mem.read a + 1) } := by
  cases o <;> rfl

theorem exec_dec (s : Cpu) (o : Opd) : s.exec .DEC o = (s.ea o).map fun a =>
    { s with mem := s.mem.write a (s.mem.read a - 1), f := Cpu.setNZ s.f (s.mem.read a - 1) } := by
  cases o <;> rfl

theorem rmw_of_ne_none (s : Cpu) (o : Opd) (g : Byte → Bool → Byte × Bool) (ho : o ≠ .none) :
    s.rmw o g = (s.ea o).map fun a =>
      { s with mem := s.mem.write a (g (s.mem.read a) s.f.c).1,
               f := { Cpu.setNZ s.f (g (s.mem.read a) s.f.c).1 with c := (g (s.mem.read a) s.f.c).2 } } := by
  cases o <;> first | exact absurd rfl ho | rfl

/-- what the loads and the transfers into `r` do -/
def setReg (s : Cpu) (r : Res) (v : Byte) : Cpu :=
  match r with
  | .a => { s with a := v, f := Cpu.setNZ s.f v }
  | .x => { s with x := v, f := Cpu.setNZ s.f v }
  | .y => { s with y := v, f := Cpu.setNZ s.f v }
  | _ => s

theorem exec_load {mn : Mn} {r : Res} (h : loadReg mn = some r) (s : Cpu) (o : Opd) :
    s.exec mn o = (s.rd o).map (setReg s r) := by
  unfold loadReg at h
  split at h <;> cases h <;> rfl

theorem exec_transfer {mn : Mn} {sr d : Res} (h : transfer mn = some (sr, d)) (s : Cpu) (o : Opd) :
    s.exec mn o = some (setReg s d (regVal s sr)) := by
  unfold transfer at h
  split at h <;> cases h <;> rfl

theorem exec_store {mn : Mn} {r : Res} (h : storeReg mn = some r) (s : Cpu) (o : Opd) :
    s.exec mn o = (s.ea o).map fun ad => { s with mem := s.mem.write ad (regVal s r) } := by
  unfold storeReg at h
  split at h <;> cases h <;> rfl

/-- the load reads no flag, `CLC` and `SEC` change nothing but C -/
theorem lda_flag_comm (s : Cpu) (c : Mn) (hc : c = Mn.CLC ∨ c = Mn.SEC) (o : Opd) :
    (s.exec .LDA o).bind (fun t => t.exec c .none) = (s.exec c .none).bind (fun t => t.exec .LDA o) := by
  obtain ⟨b, hb⟩ : ∃ b, ∀ t : Cpu, t.exec c .none = some { t with f := { t.f with c := b } } := by
    rcases hc with rfl | rfl <;> exact ⟨_, fun _ => rfl⟩
  rw [hb, Option.bind_some]
  show ((s.rd o).map _).bind _ = (Cpu.rd _ o).map _
  rw [rd_frame s { s with f := { s.f with c := b } } o rfl (fun _ => rfl) (fun _ => rfl)]
  cases s.rd o with
  | none => rfl
  | some v => exact hb _

-- `Cpu.setNZ` field by field; primed, since the generator proofs have the same four as `CV.GenFlat.setNZ_n` … `setNZ_v`
theorem setNZ_n' (f : Flags) (v : Byte) : (Cpu.setNZ f v).n = v.msb := rfl
theorem setNZ_z' (f : Flags) (v : Byte) : (Cpu.setNZ f v).z = (v == 0) := rfl
theorem setNZ_c' (f : Flags) (v : Byte) : (Cpu.setNZ f v).c = f.c := rfl
theorem setNZ_v' (f : Flags) (v : Byte) : (Cpu.setNZ f v).v = f.v := rfl

end CV.Valid
