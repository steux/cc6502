/-
  Two machine states that agree up to dead resources (`Agree`). The state changes the reasoned instructions are made of
  keep agreement (`Agree.setA`, `Agree.store`, …), each for the row of `writesReg` that fits it; `exec_agree` says which
  change each instruction is and why its inputs are the same in both states.
-/
import CV.Proofs.ValidExec
namespace CV.Valid

/-- Mind the polarity: `D r = true` says that `r` is DEAD (overwritten before anything reads it), so that the two
    states need NOT agree in it. Memory, the stack pointer and V are never dead. -/
structure Agree (D : Res → Bool) (s1 s2 : Cpu) : Prop where
  mem : s1.mem = s2.mem
  sp : s1.sp = s2.sp
  v : s1.f.v = s2.f.v
  a : D .a = false → s1.a = s2.a
  x : D .x = false → s1.x = s2.x
  y : D .y = false → s1.y = s2.y
  nz : D .nz = false → s1.f.n = s2.f.n ∧ s1.f.z = s2.f.z
  c : D .c = false → s1.f.c = s2.f.c

theorem Agree.refl (D : Res → Bool) (s : Cpu) : Agree D s s :=
  { mem := rfl, sp := rfl, v := rfl, a := fun _ => rfl, x := fun _ => rfl, y := fun _ => rfl,
    nz := fun _ => ⟨rfl, rfl⟩, c := fun _ => rfl }

theorem Agree.symm {D : Res → Bool} {s1 s2 : Cpu} (h : Agree D s1 s2) : Agree D s2 s1 :=
  { mem := h.mem.symm, sp := h.sp.symm, v := h.v.symm, a := fun e => (h.a e).symm, x := fun e => (h.x e).symm,
    y := fun e => (h.y e).symm, nz := fun e => ⟨(h.nz e).1.symm, (h.nz e).2.symm⟩, c := fun e => (h.c e).symm }

theorem Agree.trans {D : Res → Bool} {s1 s2 s3 : Cpu} (h1 : Agree D s1 s2) (h2 : Agree D s2 s3) : Agree D s1 s3 :=
  { mem := h1.mem.trans h2.mem, sp := h1.sp.trans h2.sp, v := h1.v.trans h2.v,
    a := fun e => (h1.a e).trans (h2.a e), x := fun e => (h1.x e).trans (h2.x e), y := fun e => (h1.y e).trans (h2.y e),
    nz := fun e => ⟨(h1.nz e).1.trans (h2.nz e).1, (h1.nz e).2.trans (h2.nz e).2⟩, c := fun e => (h1.c e).trans (h2.c e) }

theorem Agree.mono {D D' : Res → Bool} {s1 s2 : Cpu} (h : Agree D s1 s2) (hd : ∀ r, D r = true → D' r = true) :
    Agree D' s1 s2 :=
  have live : ∀ {r}, D' r = false → D r = false := fun {r} e =>
    Bool.eq_false_iff.mpr fun hD => Bool.false_ne_true (e.symm.trans (hd r hD))
  { h with a := fun e => h.a (live e), x := fun e => h.x (live e), y := fun e => h.y (live e),
           nz := fun e => h.nz (live e), c := fun e => h.c (live e) }

theorem Agree.full {s1 s2 : Cpu} (h : Agree (fun _ => false) s1 s2) : s1 = s2 := by
  obtain ⟨_, _, _, _, ⟨_, _, _, _⟩, _⟩ := s1
  obtain ⟨_, _, _, _, ⟨_, _, _, _⟩, _⟩ := s2
  simp only [Cpu.mk.injEq, Flags.mk.injEq]
  exact ⟨h.a rfl, h.x rfl, h.y rfl, h.sp, ⟨(h.nz rfl).1, (h.nz rfl).2, h.c rfl, h.v⟩, h.mem⟩

theorem mem_allRes (r : Res) : r ∈ allRes := by cases r <;> simp [allRes]

theorem contains_filter_allRes (W : Res → Bool) (q : Res) : (allRes.filter W).contains q = W q := by
  rw [Bool.eq_iff_iff, List.contains_iff_mem, List.mem_filter]
  exact ⟨And.right, fun e => ⟨mem_allRes q, e⟩⟩

/-- what is asked of two states in front of a step that overwrites `ws`, `D'` marking what is dead behind it. For a
    literal `ws`, `ws.contains r || D' r` evaluates to `D' r` outside `ws`, so that `{ k with … }` below typechecks;
    `exec_agree` has `ws` as `allRes.filter (writesReg mn o)`, which evaluates once `mn` is known. -/
abbrev AgreeBut (ws : List Res) (D' : Res → Bool) (s1 s2 : Cpu) : Prop :=
  Agree (fun q => ws.contains q || D' q) s1 s2

section
variable {D' : Res → Bool} {s1 s2 : Cpu}

theorem Agree.setA (k : AgreeBut [.a, .nz] D' s1 s2) {v1 v2 : Byte} (hv : v1 = v2) :
    Agree D' (setReg s1 .a v1) (setReg s2 .a v2) :=
  hv ▸ { k with a := fun _ => rfl, nz := fun _ => ⟨rfl, rfl⟩ }

theorem Agree.setX (k : AgreeBut [.x, .nz] D' s1 s2) {v1 v2 : Byte} (hv : v1 = v2) :
    Agree D' (setReg s1 .x v1) (setReg s2 .x v2) :=
  hv ▸ { k with x := fun _ => rfl, nz := fun _ => ⟨rfl, rfl⟩ }

theorem Agree.setY (k : AgreeBut [.y, .nz] D' s1 s2) {v1 v2 : Byte} (hv : v1 = v2) :
    Agree D' (setReg s1 .y v1) (setReg s2 .y v2) :=
  hv ▸ { k with y := fun _ => rfl, nz := fun _ => ⟨rfl, rfl⟩ }

theorem Agree.setC (k : AgreeBut [.c] D' s1 s2) (b : Bool) :
    Agree D' { s1 with f := { s1.f with c := b } } { s2 with f := { s2.f with c := b } } :=
  { k with c := fun _ => rfl }

theorem Agree.setNZ (k : AgreeBut [.nz] D' s1 s2) {v1 v2 : Byte} (hv : v1 = v2) :
    Agree D' { s1 with f := Cpu.setNZ s1.f v1 } { s2 with f := Cpu.setNZ s2.f v2 } :=
  hv ▸ { k with nz := fun _ => ⟨rfl, rfl⟩ }

theorem Agree.setNZC (k : AgreeBut [.nz, .c] D' s1 s2) {v1 v2 : Byte} {c1 c2 : Bool}
    (hv : v1 = v2) (hc : c1 = c2) :
    Agree D' { s1 with f := { Cpu.setNZ s1.f v1 with c := c1 } } { s2 with f := { Cpu.setNZ s2.f v2 with c := c2 } } :=
  hv ▸ hc ▸ { k with nz := fun _ => ⟨rfl, rfl⟩, c := fun _ => rfl }

theorem Agree.cmp (k : AgreeBut [.nz, .c] D' s1 s2) {r1 r2 : Byte} (hr : r1 = r2) (m : Byte) :
    Agree D' (s1.cmp r1 m) (s2.cmp r2 m) :=
  hr ▸ k.setNZC rfl rfl

theorem Agree.setAC (k : AgreeBut [.a, .nz, .c] D' s1 s2) {p1 p2 : Byte × Bool} (hp : p1 = p2) :
    Agree D' { s1 with a := p1.1, f := { Cpu.setNZ s1.f p1.1 with c := p1.2 } }
      { s2 with a := p2.1, f := { Cpu.setNZ s2.f p2.1 with c := p2.2 } } :=
  hp ▸ { k with a := fun _ => rfl, nz := fun _ => ⟨rfl, rfl⟩, c := fun _ => rfl }

/-- `adc` (and `sbc`, which is `adc` of the complement) overwrites V as well, which is never dead: from A, C and the
    operand, like everything it writes -/
theorem Agree.adc (k : AgreeBut [.a, .nz, .c] D' s1 s2) (ha : s1.a = s2.a)
    (hc : s1.f.c = s2.f.c) (m : Byte) : Agree D' (s1.adc m) (s2.adc m) := by
  unfold Cpu.adc
  rw [ha, hc]
  exact { k with v := rfl, a := fun _ => rfl, nz := fun _ => ⟨rfl, rfl⟩, c := fun _ => rfl }

end

section
variable {D : Res → Bool} {s1 s2 : Cpu} (h : Agree D s1 s2)
include h

theorem Agree.store (ad : Word) {w1 w2 : Byte} (hw : w1 = w2) :
    Agree D { s1 with mem := s1.mem.write ad w1 } { s2 with mem := s2.mem.write ad w2 } :=
  { h with mem := hw ▸ congrArg (Mem.write · ad w1) h.mem }

theorem Agree.push {v1 v2 : Byte} (hv : v1 = v2) : Agree D (s1.push v1) (s2.push v2) := by
  subst hv
  refine { h with mem := ?_, sp := congrArg (· - 1) h.sp }
  show s1.mem.write _ _ = s2.mem.write _ _
  rw [h.mem, h.sp]

theorem Agree.pull : s1.pull.1 = s2.pull.1 ∧ Agree D s1.pull.2 s2.pull.2 := by
  refine ⟨?_, { h with sp := congrArg (· + 1) h.sp }⟩
  show s1.mem.read _ = s2.mem.read _
  rw [h.mem, h.sp]

end

theorem operand_agree {D : Res → Bool} {s1 s2 : Cpu} (mn : Mn) (o : Opd) (h : Agree D s1 s2)
    (hread : ∀ r, readsReg mn o r = true → D r = false) : s1.rd o = s2.rd o ∧ s1.ea o = s2.ea o := by
  have hx : Opd.usesX o = true → s1.x = s2.x := fun e => h.x (hread .x (by unfold readsReg; rw [e]; rfl))
  have hy : Opd.usesY o = true → s1.y = s2.y := fun e => h.y (hread .y (by unfold readsReg; rw [e]; rfl))
  exact ⟨rd_frame s2 s1 o h.mem hx hy, ea_frame s2 s1 o h.mem hx hy⟩

/-- `readsReg mn o .x` does not evaluate while `o` is a variable (`Opd.usesX o` is in the way); with `.none` it does -/
theorem readsReg_of_none {mn : Mn} {o : Opd} {r : Res} (ha : (r == Res.a) = false) (hc : (r == Res.c) = false)
    (h : readsReg mn .none r = true) : readsReg mn o r = true := by
  unfold readsReg at h ⊢
  simp only [ha, hc, show Opd.usesX .none = false from rfl, show Opd.usesY .none = false from rfl, Bool.and_false,
    Bool.or_false, Bool.false_or] at h ⊢
  rw [h, Bool.or_true]

theorem accShift_of_ne_none {mn : Mn} {o : Opd} (ho : o ≠ .none) : accShift mn o = false := by
  cases o <;> first | exact absurd rfl ho | exact Bool.and_false _

/-- `writesReg` looks at the operand only to tell a shift of A from one of a cell; `.imm 0` stands for "not `.none`", so
    that the right-hand side evaluates once `mn` is known -/
theorem writesReg_of_ne_none {mn : Mn} {o : Opd} (ho : o ≠ .none) : writesReg mn o = writesReg mn (.imm 0) := by
  funext r; unfold writesReg; rw [accShift_of_ne_none ho, accShift_of_ne_none (o := .imm 0) nofun]

theorem map_agree {α : Type} {D' : Res → Bool} {x1 x2 : Option α} {g1 g2 : α → Cpu} {s1' : Cpu} (hx : x1 = x2)
    (he : x1.map g1 = some s1') (hg : ∀ v, Agree D' (g1 v) (g2 v)) :
    ∃ s2', x2.map g2 = some s2' ∧ Agree D' s1' s2' := by
  subst hx
  cases x1 with
  | none => cases he
  | some v => cases he; exact ⟨_, rfl, hg v⟩

/-- `hWa`, `hWm`: what `writesReg` says of `ASL`, `LSR`, `ROL` and `ROR` alike (`rfl` for each of the four).
    `hg`: the carry goes in only where `readsReg` says so. -/
theorem rmw_agree {D' : Res → Bool} {s1 s2 s1' : Cpu} {mn : Mn} {o : Opd} (g : Byte → Bool → Byte × Bool)
    (k : AgreeBut (allRes.filter (writesReg mn o)) D' s1 s2)
    (hWa : allRes.filter (writesReg mn .none) = [.a, .nz, .c]) (hWm : allRes.filter (writesReg mn (.imm 0)) = [.nz, .c])
    (hea : s1.ea o = s2.ea o) (he : s1.rmw o g = some s1') (ha : o = .none → s1.a = s2.a)
    (hg : ∀ v, g v s1.f.c = g v s2.f.c) : ∃ s2', s2.rmw o g = some s2' ∧ Agree D' s1' s2' := by
  by_cases ho : o = .none
  · subst ho
    rw [hWa] at k
    cases he
    exact ⟨_, rfl, k.setAC ((ha rfl) ▸ hg s1.a)⟩
  · rw [writesReg_of_ne_none ho, hWm] at k
    rw [rmw_of_ne_none _ _ _ ho] at he ⊢
    refine map_agree hea he fun ad => ?_
    have hp : g (s1.mem.read ad) s1.f.c = g (s2.mem.read ad) s2.f.c := k.mem ▸ hg _
    exact (k.setNZC (congrArg Prod.fst hp) (congrArg Prod.snd hp)).store ad (congrArg Prod.fst hp)

/-- `D`: what is dead in front of the instruction; `D'`: behind it -/
theorem exec_agree {D D' : Res → Bool} {s1 s2 s1' : Cpu} (mn : Mn) (o : Opd) (hs : supported mn = true)
    (h : Agree D s1 s2)
    (hread : ∀ r, readsReg mn o r = true → D r = false)
    (hD : ∀ r, D' r = false → writesReg mn o r = true ∨ D r = false)
    (he : s1.exec mn o = some s1') : ∃ s2', s2.exec mn o = some s2' ∧ Agree D' s1' s2' := by
  obtain ⟨hrd, hea⟩ := operand_agree mn o h hread
  -- what was dead before is overwritten or dead afterwards: elsewhere the states agree
  have k : AgreeBut (allRes.filter (writesReg mn o)) D' s1 s2 := h.mono fun r hr => by
    rw [contains_filter_allRes]
    cases hd' : D' r with
    | true => exact Bool.or_true _
    | false => rw [(hD r hd').resolve_right fun e => Bool.false_ne_true (e.symm.trans hr)]; rfl
  have qa : readsReg mn o .a = true → s1.a = s2.a := fun e => h.a (hread _ e)
  have qx : readsReg mn .none .x = true → s1.x = s2.x := fun e => h.x (hread _ (readsReg_of_none rfl rfl e))
  have qy : readsReg mn .none .y = true → s1.y = s2.y := fun e => h.y (hread _ (readsReg_of_none rfl rfl e))
  have qc : readsReg mn o .c = true → s1.f.c = s2.f.c := fun e => h.c (hread _ e)
  cases mn <;> try cases hs
  case LDA => exact map_agree hrd he fun _ => k.setA rfl
  case LDX => exact map_agree hrd he fun _ => k.setX rfl
  case LDY => exact map_agree hrd he fun _ => k.setY rfl
  case STA => exact map_agree hea he fun ad => k.store ad (qa rfl)
  case STX => exact map_agree hea he fun ad => k.store ad (qx rfl)
  case STY => exact map_agree hea he fun ad => k.store ad (qy rfl)
  case TAX => cases he; exact ⟨_, rfl, k.setX (qa rfl)⟩
  case TAY => cases he; exact ⟨_, rfl, k.setY (qa rfl)⟩
  case TXA => cases he; exact ⟨_, rfl, k.setA (qx rfl)⟩
  case TYA => cases he; exact ⟨_, rfl, k.setA (qy rfl)⟩
  case INX | DEX => cases he; exact ⟨_, rfl, k.setX (by rw [qx rfl])⟩
  case INY | DEY => cases he; exact ⟨_, rfl, k.setY (by rw [qy rfl])⟩
  case EOR | AND | ORA => exact map_agree hrd he fun _ => k.setA (by rw [qa rfl])
  case ADC | SBC => exact map_agree hrd he fun _ => k.adc (qa rfl) (qc rfl) _
  case CMP => exact map_agree hrd he fun v => k.cmp (qa rfl) v
  case CPX => exact map_agree hrd he fun v => k.cmp (qx rfl) v
  case CPY => exact map_agree hrd he fun v => k.cmp (qy rfl) v
  case CLC | SEC => cases he; exact ⟨_, rfl, k.setC _⟩
  case NOP => cases he; exact ⟨_, rfl, k⟩
  case PHA => cases he; exact ⟨_, rfl, k.push (qa rfl)⟩
  case PLA => cases he; exact ⟨_, rfl, k.pull.2.setA k.pull.1⟩
  case INC =>
    rw [exec_inc] at he ⊢
    exact map_agree hea he fun ad => (k.setNZ (by rw [h.mem])).store ad (by rw [h.mem])
  case DEC =>
    rw [exec_dec] at he ⊢
    exact map_agree hea he fun ad => (k.setNZ (by rw [h.mem])).store ad (by rw [h.mem])
  case ASL => exact rmw_agree Cpu.gASL k rfl rfl hea he (fun e => qa (e ▸ rfl)) fun _ => rfl
  case LSR => exact rmw_agree Cpu.gLSR k rfl rfl hea he (fun e => qa (e ▸ rfl)) fun _ => rfl
  case ROL => exact rmw_agree Cpu.gROL k rfl rfl hea he (fun e => qa (e ▸ rfl)) fun _ => qc (by cases o <;> rfl) ▸ rfl
  case ROR => exact rmw_agree Cpu.gROR k rfl rfl hea he (fun e => qa (e ▸ rfl)) fun _ => qc (by cases o <;> rfl) ▸ rfl

theorem exec_agree_none {D : Res → Bool} {s1 s2 : Cpu} (mn : Mn) (o : Opd) (hs : supported mn = true)
    (h : Agree D s1 s2) (hread : ∀ r, readsReg mn o r = true → D r = false) (he : s1.exec mn o = none) :
    s2.exec mn o = none := by
  cases he2 : s2.exec mn o with
  | none => rfl
  | some s2' =>
    obtain ⟨s1', h1, -⟩ := exec_agree (D' := fun _ => true) mn o hs h.symm hread (fun _ e => nomatch e) he2
    cases he.symm.trans h1

/-- `CLC` and `SEC` read nothing and overwrite C. The case of `exec_agree` with C counted as dead in front of the
    instruction, as `lineOK` counts it for a load exchanged with the flag instruction -/
theorem flag_agree {D : Res → Bool} {s1 s2 s1' : Cpu} {c : Mn} (hc : c = Mn.CLC ∨ c = Mn.SEC)
    (h : Agree (fun r => r == .c || D r) s1 s2) (he : s1.exec c .none = some s1') :
    ∃ s2', s2.exec c .none = some s2' ∧ Agree D s1' s2' := by
  rcases hc with rfl | rfl <;> cases he <;> exact ⟨_, rfl, { h with c := fun _ => rfl }⟩

theorem taken_agree {D : Res → Bool} {s1 s2 : Cpu} (mn : Mn) (h : Agree D s1 s2)
    (hread : ∀ r, brReads mn r = true → D r = false) : Cpu.taken s1.f mn = Cpu.taken s2.f mn := by
  cases mn
  case BCC => exact congrArg (fun b => some (!b)) (h.c (hread .c rfl))
  case BCS => exact congrArg some (h.c (hread .c rfl))
  case BEQ => exact congrArg some (h.nz (hread .nz rfl)).2
  case BNE => exact congrArg (fun b => some (!b)) (h.nz (hread .nz rfl)).2
  case BMI => exact congrArg some (h.nz (hread .nz rfl)).1
  case BPL => exact congrArg (fun b => some (!b)) (h.nz (hread .nz rfl)).1
  case BVC => exact congrArg (fun b => some (!b)) h.v
  case BVS => exact congrArg some h.v
  all_goals rfl

end CV.Valid
