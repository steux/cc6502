/-
  The simulation. Its invariant (`Inv`) and one step of it (`corr`): where the invariant holds, both programs halt in
  agreeing states, or both advance to a common line where it holds again, or neither ever halts (a `corr_…` lemma for
  each way a line is justified: `Just`). `Lock.run` in both directions then gives `validate_sound`.
-/
import CV.Proofs.ValidSound
import CV.Proofs.ValidAccept
namespace CV.Valid

/-- both programs are at line `k`. The facts of a line control cannot reach are `none`, so `At` says that control can
    reach `k`: a line is reached by falling into it, where `post` gave `some K'` (`inv_next`), or by a jump to a label,
    where nothing is assumed (`inv_label`); hence `corr` has no case for `Just.unreachable` -/
structure At (orig opt : VCode) (k : Nat) (K : Facts) (s1 s2 : Cpu) : Prop where
  facts : (factsOf orig)[k]? = some (some K)
  holds : K.holds s1
  agree : Agree (fun r => dead opt r k) s1 s2

/-- `k` is not the second half of an exchanged pair: there the programs are out of step, and the step from the first
    half goes two lines on (`corr_swap`). Or `k` is past the end, where both are stuck: `factsOf orig` has no entry there
    for `At` to speak of, and with this disjunct `inv_next` need not know whether a line follows. -/
def Inv (orig opt : VCode) (k : Nat) (s1 s2 : Cpu) : Prop :=
  orig.length ≤ k ∨ (¬ isSecond orig opt k ∧ ∃ K, At orig opt k K s1 s2)

abbrev Corr (extF : Nat → Cpu → Cpu) (orig opt : VCode) : Nat → Cpu → Cpu → Prop :=
  Lock extF orig opt (Inv orig opt) (Agree exitDead)

theorem at_atLine {orig opt : VCode} {k : Nat} {K' : Facts} {l : VLine} {s1 s2 : Cpu}
    (hf : (factsOf orig)[k]? = some (atLine (some K') l)) (hh : K'.holds s1)
    (hag : Agree (fun r => dead opt r k) s1 s2) : ∃ K, At orig opt k K s1 s2 := by
  -- at a label `atLine` answers `Facts.top`, elsewhere `K'`
  cases l <;> first | exact ⟨_, { facts := hf, holds := hh, agree := hag }⟩
                    | exact ⟨_, { facts := hf, holds := holds_top s1, agree := hag }⟩

/-- how every case of `corr` that falls through ends. `hnf`: so that `k + 1` is not a second half. -/
theorem inv_next {orig opt : VCode} {k : Nat} {K : Facts} {lo : VLine} (K' : Facts) {s1' s2' : Cpu}
    (hK : (factsOf orig)[k]? = some (some K)) (hlo : orig[k]? = some lo) (hpost : post (some K) lo = some K')
    (hnf : ¬ isFirst orig opt k) (hh : K'.holds s1') (hag : Agree (fun r => dead opt r (k + 1)) s1' s2') :
    Inv orig opt (k + 1) s1' s2' := by
  by_cases hlen : orig.length ≤ k + 1
  · exact Or.inl hlen
  · obtain ⟨lk1, hlk1⟩ : ∃ l, orig[k + 1]? = some l := ⟨_, List.getElem?_eq_getElem (by omega)⟩
    exact Or.inr ⟨fun hs => hnf hs.2, at_atLine (hpost ▸ factsFrom_succ hK hlo hlk1) hh hag⟩

/-- a label is no second half: behind a first half `orig` has the flag instruction -/
theorem inv_label {orig opt : VCode} (acc : Accepted orig opt) {t : Nat} {l : String} {s1 s2 : Cpu}
    (h : orig[t]? = some (.lab l)) (hag : Agree (fun r => dead opt r t) s1 s2) : Inv orig opt t s1 s2 := by
  refine Or.inr ⟨fun ⟨ht, hf⟩ => ?_, Facts.top, { facts := facts_label h, holds := holds_top s1, agree := hag }⟩
  obtain ⟨c, -, -, hc⟩ := flag_behind_first acc hf
  rw [Nat.sub_add_cancel ht] at hc
  cases h.symm.trans hc

theorem inv_entry (orig opt : VCode) (s : Cpu) : Inv orig opt 0 s s := by
  cases horig : orig with
  | nil => exact Or.inl (Nat.le_refl 0)
  | cons l rest =>
    exact horig ▸ Or.inr ⟨fun hs => Nat.lt_irrefl 0 hs.1,
      at_atLine (horig ▸ factsFrom_zero _ l rest) (holds_top s) (Agree.refl _ _)⟩

section
variable {extF : Nat → Cpu → Cpu} {orig opt : VCode} {k : Nat} {s1 s2 : Cpu}

theorem corr_stuck (h1 : step extF orig k s1 = .stuck) (h2 : step extF opt k s2 = .stuck) : Corr extF orig opt k s1 s2 :=
  Lock.never (run_stuck h1) (run_stuck h2)

theorem corr_goto (acc : Accepted orig opt) {l : String}
    (h1 : step extF orig k s1 = match findLab orig l with | some t => .next t s1 | none => .stuck)
    (h2 : step extF opt k s2 = match findLab opt l with | some t => .next t s2 | none => .stuck)
    (hag : ∀ t, findLab opt l = some t → Agree (fun r => dead opt r t) s1 s2) : Corr extF orig opt k s1 s2 := by
  rw [← acc.labs] at h2 hag
  cases hf : findLab orig l with
  | none => exact corr_stuck (by rw [h1, hf]) (by rw [h2, hf])
  | some t =>
    exact Lock.step1 (by rw [h1, hf]) (by rw [h2, hf]) (inv_label acc (findLab_spec hf) (hag t hf))

/-- what the line reads is live in front of it, so the step has the same inputs in both programs; what is dead in
    front of it is dead on every way out of it, or overwritten -/
theorem corr_kept (acc : Accepted orig opt) {K : Facts} {l : VLine} (h : At orig opt k K s1 s2)
    (hlo : orig[k]? = some l) (hlp : opt[k]? = some l)
    (hsup : ∀ mn o, l = .ins mn o → supported mn = true) : Corr extF orig opt k s1 s2 := by
  obtain ⟨hK, hh, hag⟩ := h
  have hnf := not_first_of_same (orig := orig) hlo hlp
  cases l with
  | ins mn o =>
    have hsup := hsup mn o rfl
    have hread : ∀ r, readsReg mn o r = true → dead opt r k = false := fun _ hr => dead_ins_read hlp hr
    cases he : s1.exec mn o with
    | none =>
      exact corr_stuck (by rw [step_ins hlo, he]) (by rw [step_ins hlp, exec_agree_none mn o hsup hag hread he])
    | some s1' =>
      obtain ⟨s2', he2, hag'⟩ := exec_agree (D' := fun r => dead opt r (k + 1)) mn o hsup hag hread
        (fun _ hr => live_ins_next hlp hr) he
      exact Lock.step1 (by rw [step_ins hlo, he]) (by rw [step_ins hlp, he2])
        (inv_next _ hK hlo rfl hnf (holds_xfer hh he) hag')
  | br mn l =>
    have ht2 : Cpu.taken s2.f mn = Cpu.taken s1.f mn := (taken_agree mn hag fun _ hr => dead_br_read hlp hr).symm
    cases ht : Cpu.taken s1.f mn with
    | none => exact corr_stuck (by rw [step_br hlo, ht]) (by rw [step_br hlp, ht2, ht])
    | some b =>
      cases b with
      | false =>
        exact Lock.step1 (by rw [step_br hlo, ht]) (by rw [step_br hlp, ht2, ht])
          (inv_next K hK hlo rfl hnf hh (hag.mono fun _ hr => dead_br_next hlp hr))
      | true =>
        exact corr_goto acc (by rw [step_br hlo, ht]; rfl) (by rw [step_br hlp, ht2, ht]; rfl)
          fun t hf => hag.mono fun _ hr => dead_br_taken hlp hf hr
  | jmp l =>
    exact corr_goto acc (step_jmp hlo s1) (step_jmp hlp s2) fun t hf => hag.mono fun _ hr => dead_jmp hlp hf hr
  | lab l =>
    exact Lock.step1 (step_filler (.inr ⟨l, hlo⟩) s1) (step_filler (.inr ⟨l, hlp⟩) s2)
      (inv_next Facts.top hK hlo rfl hnf (holds_top s1) (filler_agree (.inr ⟨l, hlp⟩) hag))
  | dummy =>
    exact Lock.step1 (step_filler (.inl hlo) s1) (step_filler (.inl hlp) s2)
      (inv_next K hK hlo rfl hnf hh (filler_agree (.inl hlp) hag))
  | rts =>
    exact Lock.halt (step_rts hlo s1) (step_rts hlp s2) (hag.mono fun _ hr => dead_rts hlp hr)
  | ext id =>
    -- nothing is dead in front of it: the two states are the same
    cases Agree.full (hag.mono fun _ hr => (dead_ext hlp).symm.trans hr)
    exact Lock.step1 (step_ext hlo s1) (step_ext hlp s1)
      (inv_next Facts.top hK hlo rfl hnf (holds_top (extF id s1)) (Agree.refl _ _))

theorem corr_removed {K : Facts} {mn : Mn} {o : Opd} (h : At orig opt k K s1 s2) (hlo : orig[k]? = some (.ins mn o))
    (hlp : opt[k]? = some .dummy) (hex : execOK mn o = true)
    (hrem : removable K (fun r => dead opt r (k + 1)) mn o = true) : Corr extF orig opt k s1 s2 := by
  obtain ⟨hK, hh, hag⟩ := h
  obtain ⟨s1', he⟩ := execOK_some s1 mn o hex
  exact Lock.step1 (by rw [step_ins hlo, he]) (step_filler (.inl hlp) s2)
    (inv_next _ hK hlo rfl (not_first_of_dummy hlp) (holds_xfer hh he)
      (removable_sound K _ mn o s1 s2 s1' hh (filler_agree (.inl hlp) hag) hrem he))

theorem corr_removed_br {K : Facts} {mn : Mn} {l : String} (h : At orig opt k K s1 s2) (hlo : orig[k]? = some (.br mn l))
    (hlp : opt[k]? = some .dummy) (hnt : Cpu.taken s1.f mn = some false) : Corr extF orig opt k s1 s2 :=
  Lock.step1 (by rw [step_br hlo, hnt]) (step_filler (.inl hlp) s2)
    (inv_next K h.facts hlo rfl (not_first_of_dummy hlp) h.holds (filler_agree (.inl hlp) h.agree))

theorem filler_run (extF : Nat → Cpu → Cpu) (opt : VCode) (t : Nat) : ∀ (n k : Nat) (s : Cpu), k + n = t →
    (∀ j, k ≤ j → j < t → isFiller opt j) →
    adv extF opt n k s = some (t, s) ∧ ∀ r, dead opt r k = true → dead opt r t = true := by
  intro n
  induction n with
  | zero => intro k s e _; cases e; exact ⟨rfl, fun _ h => h⟩
  | succ n ih =>
    intro k s e h
    have hk := h k (Nat.le_refl _) (by omega)
    obtain ⟨ha, hd⟩ := ih (k + 1) s (by omega) (fun j h1 h2 => h j (by omega) h2)
    exact ⟨by rw [adv, step_filler hk]; exact ha, fun r hr => hd r (dead_filler hk hr)⟩

theorem onlyFiller_spec {opt : VCode} {k t : Nat} (h : onlyFiller opt k t = true) (j : Nat) (h1 : k < j) (h2 : j < t) :
    isFiller opt j := by
  simp only [onlyFiller, List.all_eq_true, List.mem_range] at h
  have := h (j - (k + 1)) (by omega)
  rw [show k + 1 + (j - (k + 1)) = j by omega] at this
  split at this
  · exact .inl (by assumption)
  · exact .inr ⟨_, by assumption⟩
  · cases this

/-- a jump to a label that is reached anyway by falling through -/
theorem corr_removed_jmp (acc : Accepted orig opt) {K : Facts} {l : String} {t : Nat} (h : At orig opt k K s1 s2)
    (hlo : orig[k]? = some (.jmp l)) (hlp : opt[k]? = some .dummy) (hf : findLab orig l = some t) (hkt : k < t)
    (hfill : onlyFiller opt k t = true) : Corr extF orig opt k s1 s2 := by
  obtain ⟨ha, hd⟩ := filler_run extF opt t (t - k) k s2 (by omega) fun j h1 h2 =>
    (Nat.eq_or_lt_of_le h1).elim (fun e => e ▸ .inl hlp) (fun h1 => onlyFiller_spec hfill j h1 h2)
  exact Lock.go 1 (t - k) Nat.one_pos (by omega) (adv_one (by rw [step_jmp hlo, hf])) ha
    (inv_label acc (findLab_spec hf) (h.agree.mono hd))

/-- two steps of each program -/
theorem corr_swap {K : Facts} {c : Mn} {o : Opd} (h : At orig opt k K s1 s2) (hc : c = Mn.CLC ∨ c = Mn.SEC)
    (hlo : orig[k]? = some (.ins .LDA o)) (hlp : opt[k]? = some (.ins c .none))
    (hex : execOK .LDA o = true) (ho1 : orig[k + 1]? = some (.ins c .none))
    (hp1 : opt[k + 1]? = some (.ins .LDA o) ∨
      (opt[k + 1]? = some .dummy ∧ removable K (fun r => r == .c || dead opt r (k + 2)) .LDA o = true)) :
    Corr extF orig opt k s1 s2 := by
  obtain ⟨hK, hh, hag⟩ := h
  obtain ⟨s1a, he1⟩ := execOK_some s1 .LDA o hex
  obtain ⟨s1b, he2⟩ : ∃ s1b, s1a.exec c .none = some s1b := by rcases hc with rfl | rfl <;> exact ⟨_, rfl⟩
  have hK1 : (factsOf orig)[k + 1]? = some (some (xfer K .LDA o)) := by
    exact factsFrom_succ hK hlo ho1
  have hh2 := holds_xfer (holds_xfer hh he1) he2
  -- `opt` does its flag instruction first: behind it the states agree as before, C apart
  have hag1 : Agree (fun r => r == Res.c || dead opt r (k + 1)) s1 s2 := hag.mono fun r hr => by
    cases hd : dead opt r (k + 1) with
    | true => exact Bool.or_true _
    | false =>
      -- dead in front of the flag instruction and live behind it: it is written there, so it is C
      have hw := (live_ins_next hlp hd).resolve_right fun e => Bool.false_ne_true (e.symm.trans hr)
      cases r
      case c => rfl
      all_goals rcases hc with rfl | rfl <;> cases hw
  -- were the load in front of the flag instruction in `opt` too (or nowhere), `opt` would be in `s2x` behind it
  obtain ⟨s2x, hagx, hrun⟩ : ∃ s2x, Agree (fun r => r == Res.c || dead opt r (k + 2)) s1a s2x ∧
      ∀ s2b, s2x.exec c .none = some s2b → adv extF opt 2 k s2 = some (k + 2, s2b) := by
    rcases hp1 with hp1 | ⟨hp1, hrem⟩
    · -- `exec_agree` for the load at `k + 1`, with C counted as dead on both sides of it: it does not read C
      have hread : ∀ r, readsReg .LDA o r = true → (r == Res.c || dead opt r (k + 1)) = false := fun r hr => by
        rw [dead_ins_read hp1 hr, Bool.or_false]
        cases r
        case c => cases o <;> cases hr
        all_goals rfl
      have hlive : ∀ r, (r == Res.c || dead opt r (k + 2)) = false →
          writesReg .LDA o r = true ∨ (r == Res.c || dead opt r (k + 1)) = false := fun r hr => by
        obtain ⟨hrc, hd⟩ := Bool.or_eq_false_iff.mp hr
        exact (live_ins_next hp1 hd).imp_right fun hd => by rw [hrc, hd]; rfl
      obtain ⟨s2x, hx1, hagx⟩ := exec_agree .LDA o rfl hag1 hread hlive he1
      refine ⟨s2x, hagx, fun s2b hx2 => ?_⟩
      have h := lda_flag_comm s2 c hc o
      rw [hx1, Option.bind_some, hx2] at h
      cases hs : s2.exec c .none with
      | none => rw [hs] at h; cases h
      | some sm =>
        rw [hs, Option.bind_some] at h
        exact adv_two (by rw [step_ins hlp, hs]) (by rw [step_ins hp1, ← h])
    · exact ⟨s2, removable_sound K _ .LDA o s1 s2 s1a hh (hag1.mono fun r hr => Bool.or_eq_true_iff.mpr
          ((Bool.or_eq_true_iff.mp hr).imp_right (dead_filler (.inl hp1)))) hrem he1,
        fun s2b hx2 => adv_two (by rw [step_ins hlp, hx2]) (step_filler (.inl hp1) s2b)⟩
  obtain ⟨s2b, hx2, hagb⟩ := flag_agree hc hagx he2
  exact Lock.go 2 2 (by omega) (by omega) (adv_two (by rw [step_ins hlo, he1]) (by rw [step_ins ho1, he2])) (hrun s2b hx2)
    (inv_next _ hK1 ho1 rfl (not_first_of_flag hc ho1) hh2 hagb)

end

theorem corr (extF : Nat → Cpu → Cpu) (orig opt : VCode) (acc : Accepted orig opt) (k : Nat) (s1 s2 : Cpu)
    (h : Inv orig opt k s1 s2) : Corr extF orig opt k s1 s2 := by
  rcases h with hlen | ⟨hns, K, h⟩
  · exact corr_stuck (step_oob hlen s1) (step_oob (acc.len ▸ hlen) s2)
  · have hk : k < orig.length := by
      have := (List.getElem?_eq_some_iff.mp h.facts).1
      rwa [factsOf, factsFrom_length] at this
    obtain ⟨lo, hlo⟩ : ∃ l, orig[k]? = some l := ⟨_, List.getElem?_eq_getElem hk⟩
    obtain ⟨lp, hlp⟩ : ∃ l, opt[k]? = some l := ⟨_, List.getElem?_eq_getElem (by rw [← acc.len]; exact hk)⟩
    cases acc.line k (some K) lo lp h.facts hlo hlp with
    | kept hs => exact corr_kept acc h hlo hlp hs
    | removed hex hrem => exact corr_removed h hlo hlp hex hrem
    | second _ _ hsec => exact absurd hsec hns    -- the one place the invariant leaves out
    | jmp hf hkt hfill => exact corr_removed_jmp acc h hlo hlp hf hkt hfill
    | beq hz =>
      have hf : zHolds s1 (some false) := hz ▸ h.holds.z
      exact corr_removed_br h hlo hlp (congrArg some hf)
    | bne hz =>
      have ht : zHolds s1 (some true) := hz ▸ h.holds.z
      exact corr_removed_br h hlo hlp (congrArg (fun b => some (!b)) ht)
    | swap hc hex ho1 hp1 => exact corr_swap h hc hlo hlp hex ho1 hp1

theorem inv_sound (extF : Nat → Cpu → Cpu) {orig opt : VCode} (acc : Accepted orig opt) {k : Nat} {s1 s2 : Cpu}
    (h : Inv orig opt k s1 s2) :
    (∀ r n, run extF orig n k s1 = some r → ∃ m r', run extF opt m k s2 = some r' ∧ Agree exitDead r r') ∧
    (∀ r' m, run extF opt m k s2 = some r' → ∃ n r, run extF orig n k s1 = some r ∧ Agree exitDead r r') :=
  ⟨fun r n hn => Lock.run (corr extF orig opt acc) n k s1 s2 r h hn,
   fun r' m hm => Lock.run (fun k s2 s1 h => (corr extF orig opt acc k s1 s2 h).symm) m k s2 s1 r' h hm⟩

/-- soundness of the validator (`C02.validated_function_equivalent`, where it is said in words) -/
theorem validate_sound (extF : Nat → Cpu → Cpu) (orig opt : VCode) (h : validate orig opt = true) (s : Cpu) :
    (∀ r, (∃ n, run extF orig n 0 s = some r) → ∃ m r', run extF opt m 0 s = some r' ∧ Agree exitDead r r') ∧
    (∀ r', (∃ m, run extF opt m 0 s = some r') → ∃ n r, run extF orig n 0 s = some r ∧ Agree exitDead r r') := by
  have acc := accepted_of_validate orig opt h
  obtain ⟨fw, bw⟩ := inv_sound extF acc (inv_entry orig opt s)
  exact ⟨fun r ⟨n, hn⟩ => fw r n hn, fun r' ⟨m, hm⟩ => bw r' m hm⟩

end CV.Valid
