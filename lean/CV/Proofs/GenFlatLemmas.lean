/-
  Machine-level lemmas under the generator port: the flags after `setNZ`, what an atom's operand reads and addresses,
  the loads, stores and compares of an atom as equations on states, `execSeq` piece by piece, and which of the five operators
  on bytes are associative and commutative.
-/
import CV.GenFlat
import CV.Proofs.MosLemmas
namespace CV.GenFlat

@[simp] theorem setNZ_z (f : Flags) (v : Byte) : (Cpu.setNZ f v).z = (v == 0) := rfl
@[simp] theorem setNZ_n (f : Flags) (v : Byte) : (Cpu.setNZ f v).n = v.msb := rfl
@[simp] theorem setNZ_c (f : Flags) (v : Byte) : (Cpu.setNZ f v).c = f.c := rfl
@[simp] theorem setNZ_v (f : Flags) (v : Byte) : (Cpu.setNZ f v).v = f.v := rfl

theorem adc_frame (s : Cpu) (m : Byte) : (s.adc m).mem = s.mem ∧ (s.adc m).x = s.x ∧ (s.adc m).y = s.y ∧ (s.adc m).sp = s.sp :=
  ⟨rfl, rfl, rfl, rfl⟩

@[simp] theorem opd_const (L : Layout) (n : Byte) : opd L (.const n) = .imm n := rfl
@[simp] theorem opd_var (L : Layout) (v : String) : opd L (.var v) = .mem (L v) := rfl
@[simp] theorem opd_el_k (L : Layout) (t : String) (n : Nat) : opd L (.el t (.k n)) = .mem (L t + BitVec.ofNat 16 n) := rfl
@[simp] theorem opd_el_x (L : Layout) (t : String) : opd L (.el t .x) = .memX (L t) false := rfl
@[simp] theorem opd_el_y (L : Layout) (t : String) : opd L (.el t .y) = .memY (L t) false := rfl

theorem rd_opd (L : Layout) (s : Cpu) (a : Atom) : s.rd (opd L a) = some (val L s.mem s.x s.y a) := by
  cases a with
  | const n => rfl
  | var v => rfl
  | el t i => cases i <;> simp [val, elAddr, Cpu.rd, Cpu.ea]

theorem ea_opd_el (L : Layout) (s : Cpu) (t : String) (i : Ix) : s.ea (opd L (.el t i)) = some (elAddr L s.x s.y t i) := by
  cases i <;> simp [elAddr, Cpu.ea]

/- The instructions whose operand is an atom (`rd` / `ea` of `opd L a` does not reduce without cases on the subscript),
each by `rfl` from the operand's value: `simp [Cpu.exec]` would first generate the equations of the match over all
mnemonics. Every other instruction of the templates runs by `rfl` where it is used. -/

theorem exec_LDA (s : Cpu) (o : Opd) (v : Byte) (h : s.rd o = some v) :
    s.exec .LDA o = some { s with a := v, f := Cpu.setNZ s.f v } := by
  show (s.rd o).map _ = _; rw [h]; rfl

theorem exec_LDX (s : Cpu) (o : Opd) (v : Byte) (h : s.rd o = some v) :
    s.exec .LDX o = some { s with x := v, f := Cpu.setNZ s.f v } := by
  show (s.rd o).map _ = _; rw [h]; rfl

theorem exec_LDY (s : Cpu) (o : Opd) (v : Byte) (h : s.rd o = some v) :
    s.exec .LDY o = some { s with y := v, f := Cpu.setNZ s.f v } := by
  show (s.rd o).map _ = _; rw [h]; rfl

theorem exec_STA (s : Cpu) (o : Opd) (a : Word) (h : s.ea o = some a) :
    s.exec .STA o = some { s with mem := s.mem.write a s.a } := by
  show (s.ea o).map _ = _; rw [h]; rfl

theorem exec_CMP (s : Cpu) (o : Opd) (v : Byte) (h : s.rd o = some v) : s.exec .CMP o = some (s.cmp s.a v) := by
  show (s.rd o).map _ = _; rw [h]; rfl

theorem exec_CPX (s : Cpu) (o : Opd) (v : Byte) (h : s.rd o = some v) : s.exec .CPX o = some (s.cmp s.x v) := by
  show (s.rd o).map _ = _; rw [h]; rfl

theorem exec_CPY (s : Cpu) (o : Opd) (v : Byte) (h : s.rd o = some v) : s.exec .CPY o = some (s.cmp s.y v) := by
  show (s.rd o).map _ = _; rw [h]; rfl

theorem execSeq_append (s : Cpu) (xs ys : List (Mn × Opd)) :
    execSeq s (xs ++ ys) = (execSeq s xs).bind fun s' => execSeq s' ys := by
  induction xs generalizing s with
  | nil => rfl
  | cons p ps ih =>
    simp only [List.cons_append, execSeq]
    cases s.exec p.1 p.2 with
    | none => rfl
    | some s1 => exact ih s1

theorem execSeq_trans {s s1 s2 : Cpu} {xs ys : List (Mn × Opd)} (h1 : execSeq s xs = some s1) (h2 : execSeq s1 ys = some s2) :
    execSeq s (xs ++ ys) = some s2 := by
  rw [execSeq_append, h1]; exact h2

theorem execSeq_cons {s s1 : Cpu} {mn : Mn} {o : Opd} (h : s.exec mn o = some s1) (c : List (Mn × Opd)) :
    execSeq s ((mn, o) :: c) = execSeq s1 c := by
  rw [execSeq, h]; rfl

/- The model says "not `-`" in two ways: `op.commutes` (in `ordered`, `rordered`, `wordered`) and `op == .sub` (in
`order`, `linCode`); `BOp.commutes_of_ne_sub` leads from the second to the first. -/

theorem BOp.apply_assoc (op : BOp) (h : op.commutes = true) (a b c : Byte) : op.apply (op.apply a b) c = op.apply a (op.apply b c) := by
  cases op
  · exact BitVec.add_assoc a b c
  · cases h
  · exact BitVec.and_assoc a b c
  · exact BitVec.or_assoc a b c
  · exact BitVec.xor_assoc a b c

theorem BOp.commutes_of_ne_sub {op : BOp} (h : op ≠ .sub) : op.commutes = true := by
  cases op <;> first | rfl | exact absurd rfl h

theorem BOp.apply_comm (op : BOp) (h : op.commutes = true) (a b : Byte) : op.apply a b = op.apply b a := by
  cases op
  · exact BitVec.add_comm a b
  · cases h
  · exact BitVec.and_comm a b
  · exact BitVec.or_comm a b
  · exact BitVec.xor_comm a b

end CV.GenFlat
