/-
  Runs of the machine of CV.Valid, with nothing of the validator: runs taken in stretches (`adv`), two programs in
  lock step (`Lock`), and the one induction over it (`Lock.run`), which gives a simulation in either direction
  (`Lock.symm`).
-/
import CV.Valid
namespace CV.Valid

def isFiller (code : VCode) (k : Nat) : Prop := code[k]? = some .dummy ∨ ∃ l, code[k]? = some (.lab l)

section
variable {extF : Nat → Cpu → Cpu} {code : VCode} {k : Nat}

theorem step_oob (h : code.length ≤ k) (s : Cpu) : step extF code k s = .stuck := by
  rw [step, List.getElem?_eq_none h]

theorem step_filler (h : isFiller code k) (s : Cpu) : step extF code k s = .next (k + 1) s := by
  rcases h with h | ⟨l, h⟩ <;> rw [step, h]

theorem step_ins {mn : Mn} {o : Opd} (h : code[k]? = some (.ins mn o)) (s : Cpu) :
    step extF code k s = (match s.exec mn o with | some s' => .next (k + 1) s' | none => .stuck) := by
  rw [step, h]; rfl

theorem step_jmp {l : String} (h : code[k]? = some (.jmp l)) (s : Cpu) :
    step extF code k s = (match findLab code l with | some t => .next t s | none => .stuck) := by
  rw [step, h]; rfl

theorem step_br {mn : Mn} {l : String} (h : code[k]? = some (.br mn l)) (s : Cpu) :
    step extF code k s =
      (match Cpu.taken s.f mn with
       | some true => (match findLab code l with | some t => .next t s | none => .stuck)
       | some false => .next (k + 1) s
       | none => .stuck) := by
  rw [step, h]; rfl

theorem step_rts (h : code[k]? = some .rts) (s : Cpu) : step extF code k s = .halt s := by
  rw [step, h]

theorem step_ext {id : Nat} (h : code[k]? = some (.ext id)) (s : Cpu) :
    step extF code k s = .next (k + 1) (extF id s) := by
  rw [step, h]

end

/-- `adv j k s`: exactly `j` steps from line `k`, none of them halting -/
def adv (extF : Nat → Cpu → Cpu) (code : VCode) : Nat → Nat → Cpu → Option (Nat × Cpu)
  | 0, k, s => some (k, s)
  | j + 1, k, s =>
    match step extF code k s with
    | .next k' s' => adv extF code j k' s'
    | _ => none

theorem adv_one {extF : Nat → Cpu → Cpu} {code : VCode} {k : Nat} {s : Cpu} {k' : Nat} {s' : Cpu}
    (h : step extF code k s = .next k' s') : adv extF code 1 k s = some (k', s') := by
  simp [adv, h]

theorem adv_succ {extF : Nat → Cpu → Cpu} {code : VCode} {a k : Nat} {s : Cpu} {p : Nat × Cpu}
    (h : adv extF code (a + 1) k s = some p) :
    ∃ k1 s1, step extF code k s = .next k1 s1 ∧ adv extF code a k1 s1 = some p := by
  rw [adv] at h
  split at h
  · exact ⟨_, _, by assumption, h⟩
  · cases h

theorem run_adv {extF : Nat → Cpu → Cpu} {code : VCode} {a : Nat} : ∀ {k : Nat} {s : Cpu} {k' : Nat} {s' : Cpu} (n : Nat),
    adv extF code a k s = some (k', s') → run extF code (a + n) k s = run extF code n k' s' := by
  induction a with
  | zero => intro k s k' s' n h; cases h; rw [Nat.zero_add]
  | succ a ih =>
    intro k s k' s' n h
    obtain ⟨k1, s1, hs, h⟩ := adv_succ h
    rw [show a + 1 + n = (a + n) + 1 by omega, run, hs]
    exact ih n h

theorem run_short {extF : Nat → Cpu → Cpu} {code : VCode} {a : Nat} : ∀ {n k : Nat} {s : Cpu} {k' : Nat} {s' : Cpu},
    adv extF code a k s = some (k', s') → n ≤ a → run extF code n k s = none := by
  induction a with
  | zero => intro n k s k' s' _ hn; cases Nat.le_zero.mp hn; rfl
  | succ a ih =>
    intro n k s k' s' h hn
    cases n with
    | zero => rfl
    | succ n =>
      obtain ⟨k1, s1, hs, h⟩ := adv_succ h
      rw [run, hs]
      exact ih h (by omega)

theorem adv_trans (extF : Nat → Cpu → Cpu) (code : VCode) : ∀ (a b k : Nat) (s : Cpu) (k1 : Nat) (s1 : Cpu) (k2 : Nat) (s2 : Cpu),
    adv extF code a k s = some (k1, s1) → adv extF code b k1 s1 = some (k2, s2) → adv extF code (a + b) k s = some (k2, s2) := by
  intro a
  induction a with
  | zero => intro b k s k1 s1 k2 s2 h1 h2; cases h1; rw [Nat.zero_add]; exact h2
  | succ a ih =>
    intro b k s k1 s1 k2 s2 h1 h2
    obtain ⟨k', s', hs, h1⟩ := adv_succ h1
    rw [show a + 1 + b = (a + b) + 1 by omega, adv, hs]
    exact ih b k' s' k1 s1 k2 s2 h1 h2

theorem adv_two {extF : Nat → Cpu → Cpu} {code : VCode} {k k1 k2 : Nat} {s s1 s2 : Cpu}
    (h1 : step extF code k s = .next k1 s1) (h2 : step extF code k1 s1 = .next k2 s2) :
    adv extF code 2 k s = some (k2, s2) :=
  adv_trans extF code 1 1 k s k1 s1 k2 s2 (adv_one h1) (adv_one h2)

theorem run_stuck {extF : Nat → Cpu → Cpu} {code : VCode} {k : Nat} {s : Cpu} (h : step extF code k s = .stuck) (n : Nat) :
    run extF code n k s = none := by
  cases n with
  | zero => rfl
  | succ n => rw [run, h]

/-- one stretch of lock step of two programs at a common line: both halt, in states related by `Q`; or both advance,
    each by at least one step, to a common line and states related by `R`; or neither ever halts (`never`: stuck now, stuck
    later or running for ever, which `run` does not tell apart) -/
inductive Lock (extF : Nat → Cpu → Cpu) (c1 c2 : VCode) (R : Nat → Cpu → Cpu → Prop) (Q : Cpu → Cpu → Prop)
    (k : Nat) (s1 s2 : Cpu) : Prop where
  | halt {r1 r2 : Cpu} : step extF c1 k s1 = .halt r1 → step extF c2 k s2 = .halt r2 → Q r1 r2 →
      Lock extF c1 c2 R Q k s1 s2
  | go (a b : Nat) {k' : Nat} {s1' s2' : Cpu} : 0 < a → 0 < b → adv extF c1 a k s1 = some (k', s1') →
      adv extF c2 b k s2 = some (k', s2') → R k' s1' s2' → Lock extF c1 c2 R Q k s1 s2
  | never : (∀ n, run extF c1 n k s1 = none) → (∀ m, run extF c2 m k s2 = none) → Lock extF c1 c2 R Q k s1 s2

theorem Lock.symm {extF : Nat → Cpu → Cpu} {c1 c2 : VCode} {R : Nat → Cpu → Cpu → Prop} {Q : Cpu → Cpu → Prop}
    {k : Nat} {s1 s2 : Cpu} (h : Lock extF c1 c2 R Q k s1 s2) :
    Lock extF c2 c1 (fun k s2 s1 => R k s1 s2) (fun r2 r1 => Q r1 r2) k s2 s1 := by
  cases h with
  | halt h1 h2 hq => exact .halt h2 h1 hq
  | go a b ha hb h1 h2 hr => exact .go b a hb ha h2 h1 hr
  | never h1 h2 => exact .never h2 h1

theorem Lock.step1 {extF : Nat → Cpu → Cpu} {c1 c2 : VCode} {R : Nat → Cpu → Cpu → Prop} {Q : Cpu → Cpu → Prop}
    {k k' : Nat} {s1 s2 s1' s2' : Cpu} (h1 : step extF c1 k s1 = .next k' s1') (h2 : step extF c2 k s2 = .next k' s2')
    (hR : R k' s1' s2') : Lock extF c1 c2 R Q k s1 s2 :=
  .go 1 1 Nat.one_pos Nat.one_pos (adv_one h1) (adv_one h2) hR

theorem Lock.run {extF : Nat → Cpu → Cpu} {c1 c2 : VCode} {R : Nat → Cpu → Cpu → Prop} {Q : Cpu → Cpu → Prop}
    (hstep : ∀ k s1 s2, R k s1 s2 → Lock extF c1 c2 R Q k s1 s2) :
    ∀ (n k : Nat) (s1 s2 r : Cpu), R k s1 s2 → run extF c1 n k s1 = some r →
      ∃ m r', run extF c2 m k s2 = some r' ∧ Q r r' := by
  intro n
  -- strong induction on the number of steps of the first program: a stretch uses up at least one (`0 < a`)
  induction n using Nat.strongRecOn with
  | _ n ih =>
    intro k s1 s2 r hR hrun
    cases hstep k s1 s2 hR with
    | halt h1 h2 hq =>
      cases n with
      | zero => cases hrun
      | succ n =>
        simp only [Valid.run, h1] at hrun
        cases hrun
        exact ⟨1, _, by simp [Valid.run, h2], hq⟩
    | go a b ha _ h1 h2 hR' =>
      by_cases hna : n ≤ a
      · rw [run_short h1 hna] at hrun; cases hrun
      · have hn : n = a + (n - a) := by omega
        rw [hn, run_adv (n - a) h1] at hrun
        obtain ⟨m, r', hm, hq⟩ := ih (n - a) (by omega) _ _ _ r hR' hrun
        exact ⟨b + m, r', by rw [run_adv m h2]; exact hm, hq⟩
    | never h1 _ => rw [h1 n] at hrun; cases hrun

end CV.Valid
