/-
  The generator proof for structured statements: every statement of the fragment, generated in any generator state,
  inside any loop, wherever its code is placed, runs to just behind its last line when the source statement ends
  normally (there the generator's flag belief holds), and to the label a `break` / `continue` of the enclosing loop
  jumps to when it ends that way. The induction (`Correct`) is about code at a position (`Placed`): a sub-statement's
  code is a piece of the statement's code, so the hypothesis applies to it as it stands, and a label is found where it
  was put.
-/
import CV.Proofs.GenStructCond
import CV.Proofs.GenStructSem
namespace CV.GenStruct
open CV.GenFlat CV.GenReg

/-- a run that ends at a label: nothing is claimed about the flags -/
def Jumped (L : Layout) (code : List GLine) (start : Nat) (s : Cpu) (t : Nat) (m' : SrcSt) : Prop :=
  ∃ s', Steps L code start s t s' ∧ srcOf s' = m' ∧ s'.sp = s.sp

/-- the run of a statement with outcome `out`: to `stop` (behind its code) when it ends normally, to `tc` / `tb` (where the
    enclosing loop's continue / break label stands) when it ends by `continue` / `break` -/
def ResultO (L : Layout) (code : List GLine) (start : Nat) (s : Cpu) (stop tc tb : Nat) (out : Out) (fl : Option FRef) : Prop :=
  match out.1 with
  | .norm => Result L code start s stop out.2 fl
  | .cont => Jumped L code start s tc out.2
  | .brk => Jumped L code start s tb out.2

/-- the continue label only when the statement needs it: `generate_do_while` emits it only then -/
def LoopOK (lp : LoopCtx) (whole : List GLine) (tc tb : Nat) (needC : Bool) : Prop :=
  match lp with
  | none => True
  | some (cl, bl) => (needC = true → findLbl whole cl = some tc) ∧ findLbl whole bl = some tb

theorem LoopOK.sub {lp : LoopCtx} {whole : List GLine} {tc tb : Nat} {n n' : Bool} (h : LoopOK lp whole tc tb n)
    (hn : n' = true → n = true) : LoopOK lp whole tc tb n' := by
  cases lp with
  | none => trivial
  | some p => exact ⟨fun e => h.1 (hn e), h.2⟩

section compose
variable {L : Layout} {code : List GLine} {p1 p2 p3 q tc tb : Nat} {s1 s2 : Cpu} {out : Out} {f2 f3 : Option FRef}

theorem ResultO.after (hpre : Steps L code p1 s1 p2 s2) (hsp : s2.sp = s1.sp) (hsub : ResultO L code p2 s2 p3 tc tb out f3) :
    ResultO L code p1 s1 p3 tc tb out f3 := by
  obtain ⟨e, mo⟩ := out
  cases e
  · obtain ⟨s3, hs', hm', hf', hsp'⟩ := hsub
    exact ⟨s3, hpre.trans hs', hm', hf', by rw [hsp', hsp]⟩
  · obtain ⟨s3, hs', hm', hsp'⟩ := hsub
    exact ⟨s3, hpre.trans hs', hm', by rw [hsp', hsp]⟩
  · obtain ⟨s3, hs', hm', hsp'⟩ := hsub
    exact ⟨s3, hpre.trans hs', hm', by rw [hsp', hsp]⟩

theorem ResultO.post (hsub : ResultO L code p1 s1 q tc tb out f2) (hpost : ∀ s3 : Cpu, Steps L code q s3 p3 s3) :
    ResultO L code p1 s1 p3 tc tb out none := by
  obtain ⟨e, mo⟩ := out
  cases e
  · obtain ⟨s3, hs', hm', _, hsp'⟩ := hsub
    exact ⟨s3, hs'.trans (hpost s3), hm', trivial, hsp'⟩
  · exact hsub
  · exact hsub

theorem Result.thenO {m2 : SrcSt} (h1 : Result L code p1 s1 p2 m2 f2)
    (h2 : ∀ s2 : Cpu, srcOf s2 = m2 → FlagsInv L f2 s2 → ResultO L code p2 s2 p3 tc tb out f3) :
    ResultO L code p1 s1 p3 tc tb out f3 :=
  let ⟨s2, hs, hm, hf, hsp⟩ := h1
  (h2 s2 hm hf).after hs hsp

theorem Result.trans {L : Layout} {code : List GLine} {p1 p2 p3 : Nat} {s1 : Cpu} {m2 m3 : SrcSt} {f2 f3 : Option FRef}
    (h1 : Result L code p1 s1 p2 m2 f2)
    (h2 : ∀ s2 : Cpu, srcOf s2 = m2 → FlagsInv L f2 s2 → Result L code p2 s2 p3 m3 f3) :
    Result L code p1 s1 p3 m3 f3 :=
  Result.thenO (tc := 0) (tb := 0) (out := (.norm, m3)) h1 h2

end compose

/-- the machine's side of `loopExit`: after `break` the lines from `tb` on end the loop; after a normal end the lines
    from `pn` lead to `tc`, where `continue` jumps, and from there the rest of the loop (`hk`) runs. Only a normal end
    knows about the flags. -/
theorem ResultO.inLoop {L : Layout} {code : List GLine} {p1 pn tc tb q tc' tb' : Nat} {s1 : Cpu} {ob out : Out}
    {fb : Option FRef} {k : SrcSt → Option Out}
    (rb : ResultO L code p1 s1 pn tc tb ob fb) (h : loopExit k ob = some out)
    (hn : ∀ s2 : Cpu, Steps L code pn s2 tc s2) (hb : ∀ s2 : Cpu, Steps L code tb s2 q s2)
    (hk : ∀ s2 : Cpu, srcOf s2 = ob.2 → (ob.1 = .norm → FlagsInv L fb s2) → ob.1 ≠ .brk → k ob.2 = some out →
      ResultO L code tc s2 q tc' tb' out none) :
    ResultO L code p1 s1 q tc' tb' out none := by
  obtain ⟨e, m1⟩ := ob
  cases e
  · obtain ⟨s2, hs, hm, hf, hsp⟩ := rb
    exact (hk s2 hm (fun _ => hf) (by simp) h).after (hs.trans (hn s2)) hsp
  · obtain ⟨s2, hs, hm, hsp⟩ := rb
    cases h
    exact ⟨s2, hs.trans (hb s2), hm, trivial, hsp⟩
  · obtain ⟨s2, hs, hm, hsp⟩ := rb
    exact (hk s2 hm (by simp) (by simp) h).after hs hsp

/-- the claim of the main induction for one statement and one amount of fuel: wherever the code of `st` is placed,
    whatever generated it, it runs as the outcome of `sem` says (`ResultO`) -/
def CorrectAt (L : Layout) (fuel : Nat) (st : SStmt) : Prop :=
  ∀ (m : SrcSt) (out : Out), sem L fuel m st = some out → SInFragment st = true →
    ∀ (lp : LoopCtx) (g : GState) (code : List GLine) (p : Nat) (s : Cpu) (tc tb : Nat),
      Scoped lp.isSome st = true → Placed code p (gen lp g st).1 → srcOf s = m → FlagsInv L g.flags s →
      LoopOK lp code tc tb (contHere st) →
      ResultO L code p s (p + (gen lp g st).1.length) tc tb out (gen lp g st).2.flags

/-- a loop's next round is the same statement, not a sub-statement, so the induction is on the fuel -/
def Correct (L : Layout) (fuel : Nat) : Prop := ∀ st, CorrectAt L fuel st

/-- the hypothesis as the cases use it: on the generator's output under a name -/
theorem Correct.use {L : Layout} {f : Nat} (ih : Correct L f) {st : SStmt} {m : SrcSt} {out : Out} (h : sem L f m st = some out)
    (hfr : SInFragment st = true) {lp : LoopCtx} {g : GState} {r : List GLine × GState} (hr : gen lp g st = r)
    {code : List GLine} {p : Nat} {s : Cpu} {tc tb : Nat} (hsc : Scoped lp.isSome st = true) (hP : Placed code p r.1)
    (hm : srcOf s = m) (hinv : FlagsInv L g.flags s) (hlp : LoopOK lp code tc tb (contHere st)) :
    ResultO L code p s (p + r.1.length) tc tb out r.2.flags := by
  subst hr
  exact ih st m out h hfr lp g code p s tc tb hsc hP hm hinv hlp

/-- where the code of a condition ends, by the value of `c`: `genCond g c negate label` falls through when the value is
    `negate` and jumps to `label` when it is not; on the jumping exit the flag belief is known only for a single test.
    The cases use the two readings below, whose parts are named by the truth value they are about. -/
theorem cond_exits (L : Layout) {c : Cond} (hok : CondOK c = true) {g : GState} {negate : Bool} {label : Lbl}
    {r : List GLine × GState} (hr : genCond g c negate label = r)
    {code : List GLine} {p t : Nat} {s : Cpu} {m : SrcSt} (hP : Placed code p r.1)
    (hm : srcOf s = m) (hinv : FlagsInv L g.flags s) (hl : findLbl code label = some t) :
    (evalCond L m c = negate → Result L code p s (p + r.1.length) (condEff L m c) r.2.flags) ∧
    (evalCond L m c = !negate → Result L code p s t (condEff L m c) (if c.singleExit then r.2.flags else none)) := by
  subst hr hm
  have h := genCond_runs L c g negate label hok hP hinv hl
  refine ⟨fun hev => ?_, fun hev => ?_⟩
  · have hb : (evalCond L (srcOf s) c != negate) = false := by simp [hev]
    simpa only [hb, Bool.false_eq_true, if_false, Bool.false_and] using h
  · have hb : (evalCond L (srcOf s) c != negate) = true := by rw [hev]; cases negate <;> rfl
    cases hse : c.singleExit <;> simpa [hb, hse] using h

/-- `negate = true`, a test that jumps when `c` is false: `if`, `while`, the first test of `for` -/
theorem cond_jumpsOnFalse (L : Layout) {c : Cond} (hok : CondOK c = true) {g : GState} {label : Lbl}
    {r : List GLine × GState} (hr : genCond g c true label = r)
    {code : List GLine} {p t : Nat} {s : Cpu} {m : SrcSt} (hP : Placed code p r.1)
    (hm : srcOf s = m) (hinv : FlagsInv L g.flags s) (hl : findLbl code label = some t) :
    (evalCond L m c = true → Result L code p s (p + r.1.length) (condEff L m c) r.2.flags) ∧
    (evalCond L m c = false → Result L code p s t (condEff L m c) (if c.singleExit then r.2.flags else none)) :=
  cond_exits L hok hr hP hm hinv hl

/-- `negate = false`, a test that jumps when `c` is true: `do`-`while`, the second test of `for`, `if (c) break;` -/
theorem cond_jumpsOnTrue (L : Layout) {c : Cond} (hok : CondOK c = true) {g : GState} {label : Lbl}
    {r : List GLine × GState} (hr : genCond g c false label = r)
    {code : List GLine} {p t : Nat} {s : Cpu} {m : SrcSt} (hP : Placed code p r.1)
    (hm : srcOf s = m) (hinv : FlagsInv L g.flags s) (hl : findLbl code label = some t) :
    (evalCond L m c = true → Result L code p s t (condEff L m c) (if c.singleExit then r.2.flags else none)) ∧
    (evalCond L m c = false → Result L code p s (p + r.1.length) (condEff L m c) r.2.flags) :=
  (cond_exits L hok hr hP hm hinv hl).symm

section tests
variable {L : Layout} {code : List GLine} {p pt pf tc tb : Nat} {s : Cpu} {m : SrcSt} {c : Cond} {ox oy : Option Out} {out : Out}
  {ft ff : Option FRef}

theorem ResultO.branch {q : Nat} {fl : Option FRef} (h : (if evalCond L m c then ox else oy) = some out)
    (ht : evalCond L m c = true → Result L code p s pt (condEff L m c) ft)
    (hf : evalCond L m c = false → Result L code p s pf (condEff L m c) ff)
    (hx : ox = some out → ∀ s1 : Cpu, srcOf s1 = condEff L m c → FlagsInv L ft s1 → ResultO L code pt s1 q tc tb out fl)
    (hy : oy = some out → ∀ s1 : Cpu, srcOf s1 = condEff L m c → FlagsInv L ff s1 → ResultO L code pf s1 q tc tb out fl) :
    ResultO L code p s q tc tb out fl := by
  cases hev : evalCond L m c with
  | true =>
    rw [hev] at h
    exact Result.thenO (ht hev) (hx h)
  | false =>
    rw [hev] at h
    exact Result.thenO (hf hev) (hy h)

/-- an `if` without `else` and every loop: when the condition does not hold the statement is over, behind the label
    that is its last line -/
theorem ResultO.test {l : Lbl} {r : List GLine} (h : (if evalCond L m c then ox else some (.norm, condEff L m c)) = some out)
    (ht : evalCond L m c = true → Result L code p s pt (condEff L m c) ft)
    (hf : evalCond L m c = false → Result L code p s pf (condEff L m c) ff) (hPe : Placed code pf (.lab l :: r))
    (hx : ox = some out → ∀ s1 : Cpu, srcOf s1 = condEff L m c → FlagsInv L ft s1 →
      ResultO L code pt s1 (pf + 1) tc tb out none) :
    ResultO L code p s (pf + 1) tc tb out none :=
  ResultO.branch h ht hf hx fun h s1 hm1 _ => by
    cases h
    exact ⟨s1, hPe.stepLab s1, hm1, trivial, rfl⟩

end tests

/-- `if (c) break;` / `if (c) continue;`: the condition branches to the loop's label itself -/
theorem case_condJump (L : Layout) (c : Cond) (hok : CondOK c = true) (g : GState) (l : Lbl) {code : List GLine} {p t : Nat}
    {s : Cpu} {m : SrcSt} (e : Exit) (tc tb : Nat) (he : e = .brk ∧ t = tb ∨ e = .cont ∧ t = tc)
    (hP : Placed code p (genCond { g with cIf := g.cIf + 1 } c false l).1)
    (hm : srcOf s = m) (hinv : FlagsInv L g.flags s) (hl : findLbl code l = some t) :
    ResultO L code p s (p + (genCond { g with cIf := g.cIf + 1 } c false l).1.length) tc tb
      (if evalCond L m c then e else .norm, condEff L m c) (genCond { g with cIf := g.cIf + 1 } c false l).2.flags := by
  obtain ⟨htrue, hfalse⟩ := cond_jumpsOnTrue L hok rfl hP hm hinv hl
  cases hev : evalCond L m c with
  | false => exact hfalse hev
  | true =>
    obtain ⟨s1, hs1, hm1, _, hsp1⟩ := htrue hev
    rcases he with ⟨rfl, rfl⟩ | ⟨rfl, rfl⟩ <;> exact ⟨s1, hs1, hm1, hsp1⟩

theorem gen_seq (lp : LoopCtx) (g : GState) (a b : SStmt) :
    gen lp g (.seq a b) = ((gen lp g a).1 ++ (gen lp (gen lp g a).2 b).1, (gen lp (gen lp g a).2 b).2) := rfl

theorem case_seq (L : Layout) (f : Nat) (ih : Correct L f) (a b : SStmt) : CorrectAt L (f + 1) (.seq a b) := by
  intro m out h hfr lp g code p s tc tb hsc hP hm hinv hlp
  rw [sem_seq] at h
  simp only [SInFragment, Bool.and_eq_true] at hfr
  simp only [Scoped, Bool.and_eq_true] at hsc
  simp only [contHere] at hlp
  rw [gen_seq] at hP ⊢
  dsimp only at hP ⊢
  rw [List.length_append, ← Nat.add_assoc]
  obtain ⟨⟨ea, m1⟩, h1, h⟩ := Option.bind_eq_some_iff.mp h
  have ra := ih a m _ h1 hfr.1 lp g code p s tc tb hsc.1 hP.left hm hinv (hlp.sub (by simp; exact Or.inl))
  cases ea with
  | norm =>
    exact Result.thenO ra fun s2 hm2 hf2 =>
      ih b m1 out h hfr.2 lp _ code _ s2 tc tb hsc.2 hP.right hm2 hf2 (hlp.sub (by simp; exact Or.inr))
  | brk => cases h; exact ra
  | cont => cases h; exact ra

theorem gen_ifThen (lp : LoopCtx) (g : GState) (c : Cond) (t : SStmt) : gen lp g (.ifThen c t) =
    let rc := genCond { g with cIf := g.cIf + 1 } c true ⟨.ifend, g.cIf + 1⟩
    let rt := gen lp rc.2 t
    (rc.1 ++ rt.1 ++ [.lab ⟨.ifend, g.cIf + 1⟩], { rt.2 with flags := none }) := rfl

theorem gen_ifElse (lp : LoopCtx) (g : GState) (c : Cond) (t e : SStmt) : gen lp g (.ifElse c t e) =
    let rc := genCond { g with cIf := g.cIf + 1 } c true ⟨.else_, g.cIf + 1⟩
    let rt := gen lp rc.2 t
    let re := gen lp { rt.2 with flags := if c.singleExit then rc.2.flags else none } e
    (rc.1 ++ rt.1 ++ [.jmp ⟨.ifend, g.cIf + 1⟩, .lab ⟨.else_, g.cIf + 1⟩] ++ re.1 ++ [.lab ⟨.ifend, g.cIf + 1⟩],
      { re.2 with flags := none }) := rfl

theorem gen_while (lp : LoopCtx) (g : GState) (c : Cond) (b : SStmt) : gen lp g (.while c b) =
    let rc := genCond { g with cWhile := g.cWhile + 1, flags := none } c true ⟨.whileend, g.cWhile + 1⟩
    let rb := gen (some (⟨.while_, g.cWhile + 1⟩, ⟨.whileend, g.cWhile + 1⟩)) rc.2 b
    ([.lab ⟨.while_, g.cWhile + 1⟩] ++ rc.1 ++ rb.1 ++ [.jmp ⟨.while_, g.cWhile + 1⟩, .lab ⟨.whileend, g.cWhile + 1⟩],
      { rb.2 with flags := none }) := rfl

theorem gen_doWhile (lp : LoopCtx) (g : GState) (c : Cond) (b : SStmt) : gen lp g (.doWhile b c) =
    let rb := gen (some (⟨.dowhilecondition, g.cWhile + 1⟩, ⟨.dowhileend, g.cWhile + 1⟩)) { g with cWhile := g.cWhile + 1, flags := none } b
    let rc := genCond (if contHere b then { rb.2 with flags := none } else rb.2) c false ⟨.dowhile, g.cWhile + 1⟩
    ([.lab ⟨.dowhile, g.cWhile + 1⟩] ++ rb.1 ++ (if contHere b then [.lab ⟨.dowhilecondition, g.cWhile + 1⟩] else []) ++ rc.1 ++
        [.lab ⟨.dowhileend, g.cWhile + 1⟩], { rc.2 with flags := none }) := rfl

theorem gen_for (lp : LoopCtx) (g : GState) (i u : RStmt) (c : Cond) (b : SStmt) : gen lp g (.for i c u b) =
    let r1 := genCond { g with cFor := g.cFor + 1, flags := flagsAfter (zpL g.abs) g.flags i } c true ⟨.forend, g.cFor + 1⟩
    let rb := gen (some (⟨.forupdate, g.cFor + 1⟩, ⟨.forend, g.cFor + 1⟩)) { r1.2 with flags := none } b
    let r2 := genCond { rb.2 with flags := flagsAfter (zpL rb.2.abs) none u } c false ⟨.for_, g.cFor + 1⟩
    (flatLines (zpL g.abs) i ++ r1.1 ++ [.lab ⟨.for_, g.cFor + 1⟩] ++ rb.1 ++ [.lab ⟨.forupdate, g.cFor + 1⟩] ++
        flatLines (zpL rb.2.abs) u ++ r2.1 ++ [.lab ⟨.forend, g.cFor + 1⟩], { r2.2 with flags := none }) := rfl

theorem gen_while_flags (lp : LoopCtx) (g : GState) (x : Option FRef) (c : Cond) (b : SStmt) :
    gen lp { g with flags := x } (.while c b) = gen lp g (.while c b) := rfl

theorem gen_doWhile_flags (lp : LoopCtx) (g : GState) (x : Option FRef) (c : Cond) (b : SStmt) :
    gen lp { g with flags := x } (.doWhile b c) = gen lp g (.doWhile b c) := rfl

theorem case_ifThen (L : Layout) (f : Nat) (ih : Correct L f) (c : Cond) (t : SStmt) : CorrectAt L (f + 1) (.ifThen c t) := by
  intro m out h hfr lp g code p s tc tb hsc hP hm hinv hlp
  rw [sem_ifThen] at h
  simp only [SInFragment, Bool.and_eq_true] at hfr
  simp only [Scoped] at hsc
  simp only [contHere] at hlp
  rw [gen_ifThen] at hP ⊢
  dsimp only at hP ⊢
  simp only [List.length_append, List.length_cons, List.length_nil, Nat.zero_add, ← Nat.add_assoc]
  -- rc.1 ++ (rt.1 ++ [lab ifend])
  simp only [List.append_assoc] at hP
  have hPl := hP.right.right
  obtain ⟨htrue, hfalse⟩ := cond_jumpsOnFalse L hfr.1 rfl hP.left hm hinv hPl.find
  exact ResultO.test h htrue hfalse hPl fun h s1 hm1 hf1 =>
    (ih.use h hfr.2 rfl hsc hP.right.left hm1 hf1 hlp).post hPl.stepLab

theorem case_ifElse (L : Layout) (f : Nat) (ih : Correct L f) (c : Cond) (t e : SStmt) : CorrectAt L (f + 1) (.ifElse c t e) := by
  intro m out h hfr lp g code p s tc tb hsc hP hm hinv hlp
  rw [sem_ifElse] at h
  simp only [SInFragment, Bool.and_eq_true] at hfr
  obtain ⟨⟨hokc, hfrt⟩, hfre⟩ := hfr
  simp only [Scoped, Bool.and_eq_true] at hsc
  simp only [contHere] at hlp
  rw [gen_ifElse] at hP ⊢
  dsimp only at hP ⊢
  simp only [List.length_append, List.length_cons, List.length_nil, Nat.zero_add, ← Nat.add_assoc]
  -- rc.1 ++ (rt.1 ++ (jmp ifend :: lab else :: (re.1 ++ [lab ifend])))
  simp only [List.append_assoc, List.cons_append, List.nil_append] at hP
  have hPj := hP.right.right
  have hPl := hPj.tail.tail.right
  obtain ⟨htrue, hfalse⟩ := cond_jumpsOnFalse L hokc rfl hP.left hm hinv hPj.tail.find
  exact ResultO.branch h htrue (fun hev => (hfalse hev).trans fun s2 hm2 hf2 => ⟨s2, hPj.tail.stepLab s2, hm2, hf2, rfl⟩)
    (fun h s1 hm1 hf1 => (ih.use h hfrt rfl hsc.1 hP.right.left hm1 hf1 (hlp.sub (by simp; exact Or.inl))).post
      fun s3 => (hPj.stepJmp hPl.find s3).trans (hPl.stepLab s3))
    (fun h s1 hm1 hf1 => (ih.use h hfre rfl hsc.2 hPj.tail.tail.left hm1 hf1 (hlp.sub (by simp; exact Or.inr))).post hPl.stepLab)

theorem case_while (L : Layout) (f : Nat) (ih : Correct L f) (c : Cond) (b : SStmt) : CorrectAt L (f + 1) (.while c b) := by
  intro m out h hfr lp g code p s tc tb hsc hP hm hinv hlp
  -- the loop jumps back to its own first line: the next round is the hypothesis about the very same code
  have hrec := fun (m1 : SrcSt) (hs : sem L f m1 (.while c b) = some out) (s2 : Cpu) (hm2 : srcOf s2 = m1) =>
    ih.use hs hfr (gen_while_flags lp g none c b) hsc hP hm2 trivial hlp
  rw [sem_while] at h
  simp only [SInFragment, Bool.and_eq_true] at hfr
  simp only [Scoped] at hsc
  rw [gen_while] at hP hrec ⊢
  dsimp only at hP hrec ⊢
  simp only [List.length_append, List.length_cons, List.length_nil, Nat.zero_add, ← Nat.add_assoc] at hrec ⊢
  -- lab while :: (rc.1 ++ (rb.1 ++ [jmp while, lab whileend]))
  simp only [List.append_assoc, List.cons_append, List.nil_append] at hP
  have hPj := hP.tail.right.right
  obtain ⟨htrue, hfalse⟩ := cond_jumpsOnFalse L hfr.1 rfl hP.tail.left hm trivial hPj.tail.find
  refine ResultO.after (hP.stepLab s) rfl (ResultO.test h htrue hfalse hPj.tail fun h s1 hm1 hf1 => ?_)
  obtain ⟨ob, hb1, h⟩ := Option.bind_eq_some_iff.mp h
  have rb := ih.use (lp := some _) hb1 hfr.2 rfl hsc hP.tail.right.left hm1 hf1 ⟨fun _ => hP.find, hPj.tail.find⟩
  exact rb.inLoop h (hPj.stepJmp hP.find) hPj.tail.stepLab fun s2 hm2 _ _ hk => hrec _ hk s2 hm2

theorem case_doWhile (L : Layout) (f : Nat) (ih : Correct L f) (c : Cond) (b : SStmt) : CorrectAt L (f + 1) (.doWhile b c) := by
  intro m out h hfr lp g code p s tc tb hsc hP hm hinv hlp
  have hrec := fun (m1 : SrcSt) (hs : sem L f m1 (.doWhile b c) = some out) (s2 : Cpu) (hm2 : srcOf s2 = m1) =>
    ih.use hs hfr (gen_doWhile_flags lp g none c b) hsc hP hm2 trivial hlp
  rw [sem_doWhile] at h
  simp only [SInFragment, Bool.and_eq_true] at hfr
  simp only [Scoped] at hsc
  rw [gen_doWhile] at hP hrec ⊢
  dsimp only at hP hrec ⊢
  generalize hrb : gen (some (⟨.dowhilecondition, g.cWhile + 1⟩, ⟨.dowhileend, g.cWhile + 1⟩))
    { g with cWhile := g.cWhile + 1, flags := none } b = rb at hP hrec ⊢
  generalize hmid : (if contHere b = true then [GLine.lab ⟨.dowhilecondition, g.cWhile + 1⟩] else []) = mid at hP hrec ⊢
  simp only [List.length_append, List.length_cons, List.length_nil, Nat.zero_add, ← Nat.add_assoc] at hrec ⊢
  -- lab dowhile :: (rb.1 ++ (mid ++ (rc.1 ++ [lab dowhileend])))
  simp only [List.append_assoc, List.cons_append, List.nil_append] at hP
  have hPm := hP.tail.right.left
  have hPe := hP.tail.right.right.right
  -- the label `continue` jumps to is there when the body has one; the line is stepped over
  obtain ⟨hfindC, hmid⟩ : (contHere b = true → findLbl code ⟨.dowhilecondition, g.cWhile + 1⟩ = some (p + 1 + rb.1.length)) ∧
      ∀ s2 : Cpu, Steps L code (p + 1 + rb.1.length) s2 (p + 1 + rb.1.length + mid.length) s2 := by
    subst hmid
    revert hPm
    cases contHere b with
    | true => intro (hPm : Placed code _ (GLine.lab _ :: _)); exact ⟨fun _ => hPm.find, hPm.stepLab⟩
    | false => intro _; exact ⟨fun e => Bool.noConfusion e, fun s2 => .refl _ _⟩
  refine ResultO.after (hP.stepLab s) rfl ?_
  obtain ⟨ob, hb1, h⟩ := Option.bind_eq_some_iff.mp h
  have rb' := ih.use hb1 hfr.2 hrb hsc hP.tail.left hm trivial ⟨hfindC, hPe.find⟩
  refine rb'.inLoop h (fun s2 => .refl _ _) hPe.stepLab fun s1 hm1 hf1 hnb hk => ?_
  -- the condition: the flag belief after the body is used only when no `continue` leads here
  have hfc : FlagsInv L (if contHere b then { rb.2 with flags := none } else rb.2).flags s1 := by
    cases hcn : contHere b with
    | true => trivial
    | false =>
      refine hf1 ?_
      obtain ⟨eb, m1⟩ := ob
      cases eb with
      | norm => rfl
      | brk => exact absurd rfl hnb
      | cont => rw [sem_cont_contHere L f m b m1 hb1] at hcn; cases hcn
  obtain ⟨htrue, hfalse⟩ := cond_jumpsOnTrue L hfr.1 rfl hP.tail.right.right.left hm1 hfc hP.find
  exact ResultO.after (hmid s1) rfl (ResultO.test hk htrue hfalse hPe fun hk s2 hm2 _ => hrec _ hk s2 hm2)

/-- every round of `semFor` has one unit of fuel less than the one before, and the body runs with the fuel of its round:
    hence the hypothesis at every fuel up to `f` -/
theorem case_for (L : Layout) (f : Nat) (ihs : ∀ j, j ≤ f → Correct L j) (i u : RStmt) (c : Cond) (b : SStmt) :
    CorrectAt L (f + 1) (.for i c u b) := by
  intro m out h hfr lp g code p s tc tb hsc hP hm hinv _
  rw [sem_for] at h
  simp only [SInFragment, Bool.and_eq_true] at hfr
  obtain ⟨⟨⟨-, hokc⟩, -⟩, hfrb⟩ := hfr
  simp only [Scoped] at hsc
  rw [gen_for] at hP ⊢
  dsimp only at hP ⊢
  generalize hr1 : genCond { g with cFor := g.cFor + 1, flags := flagsAfter (zpL g.abs) g.flags i } c true ⟨.forend, g.cFor + 1⟩ = r1 at hP ⊢
  generalize hrb : gen (some (⟨.forupdate, g.cFor + 1⟩, ⟨.forend, g.cFor + 1⟩)) { r1.2 with flags := none } b = rb at hP ⊢
  generalize hr2 : genCond { rb.2 with flags := flagsAfter (zpL rb.2.abs) none u } c false ⟨.for_, g.cFor + 1⟩ = r2 at hP ⊢
  simp only [List.length_append, List.length_cons, List.length_nil, Nat.zero_add, ← Nat.add_assoc]
  -- init ++ (r1.1 ++ (lab for :: (rb.1 ++ (lab forupdate :: (upd ++ (r2.1 ++ [lab forend]))))))
  simp only [List.append_assoc, List.cons_append, List.nil_append] at hP
  let pl := p + (flatLines (zpL g.abs) i).length + r1.1.length
  let pe := pl + 1 + rb.1.length + 1 + (flatLines (zpL rb.2.abs) u).length + r2.1.length
  have hPl : Placed code pl _ := hP.right.right
  have hPu := hPl.tail.right
  have hP2 := hPu.tail.right
  have hPe : Placed code pe _ := hP2.right
  show ResultO L code p s (pe + 1) tc tb out none
  -- from the loop label, by induction on the fuel of the source loop: the body, the update, the second test
  have hloop : ∀ k, k ≤ f → ∀ (m1 : SrcSt) (s1 : Cpu), srcOf s1 = m1 →
      (sem L k m1 b).bind (loopExit fun m2 => semFor L c u b k (rspec L m2 u)) = some out →
      ResultO L code pl s1 (pe + 1) tc tb out none := by
    intro k
    induction k with
    | zero => intro _ m1 s1 _ hs; cases hs
    | succ k ihk =>
      intro hk m1 s1 hm1 hs
      obtain ⟨ob, hb1, hs⟩ := Option.bind_eq_some_iff.mp hs
      refine ResultO.after (hPl.stepLab s1) rfl ?_
      have rb := (ihs (k + 1) hk).use hb1 hfrb hrb hsc hPl.tail.left hm1 trivial ⟨fun _ => hPu.find, hPe.find⟩
      refine rb.inLoop hs (fun s2 => .refl _ _) hPe.stepLab fun s2 hm2 _ _ hs' => ?_
      refine ResultO.after (hPu.stepLab s2) rfl ?_
      refine (Placed.flat L hPu.tail.left (show FlagsInv L none s2 from trivial)).thenO fun s3 hm3 hz3 => ?_
      rw [hm2] at hm3
      obtain ⟨htrue, hfalse⟩ := cond_jumpsOnTrue L hokc hr2 hP2.left hm3 hz3 hPl.find
      rw [semFor_succ] at hs'
      exact ResultO.test hs' htrue hfalse hPe fun hs' s4 hm4 _ => ihk (by omega) _ s4 hm4 hs'
  refine (Placed.flat L hP.left hinv).thenO fun sa hma hza => ?_
  rw [hm] at hma
  obtain ⟨htrue, hfalse⟩ := cond_jumpsOnFalse L hokc hr1 hP.right.left hma hza hPe.find
  cases f with
  | zero => cases h
  | succ f1 =>
    rw [semFor_succ] at h
    exact ResultO.test h htrue hfalse hPe fun h sb hmb _ => hloop f1 (by omega) _ sb hmb h

theorem correct_placed (L : Layout) : ∀ fuel, Correct L fuel := by
  intro fuel
  induction fuel using Nat.strongRecOn with
  | _ fuel ih =>
    cases fuel with
    | zero => intro st m out h; cases h
    | succ f =>
      have ihf : Correct L f := ih f (by omega)
      intro st
      cases st with
      | flat fs =>
        intro m out h _ lp g code p s tc tb _ hP hm hinv _
        cases h
        exact hm ▸ Placed.flat L (show Placed code p (flatLines (zpL g.abs) fs) from hP) hinv
      | seq a b => exact case_seq L f ihf a b
      | ifThen c t => exact case_ifThen L f ihf c t
      | ifElse c t e => exact case_ifElse L f ihf c t e
      | «while» c b => exact case_while L f ihf c b
      | doWhile b c => exact case_doWhile L f ihf c b
      | «for» i c u b => exact case_for L f (fun j hj => ih j (by omega)) i u c b
      | skip =>
        intro m out h _ lp g code p s tc tb _ _ hm hinv _
        cases h
        exact ⟨s, .refl _ _, hm, hinv, rfl⟩
      | forget =>
        intro m out h _ lp g code p s tc tb _ _ hm _ _
        cases h
        exact ⟨s, .refl _ _, hm, trivial, rfl⟩
      | brk =>
        intro m out h _ lp g code p s tc tb hsc hP hm _ hlp
        cases h
        cases lp with
        | none => simp [Scoped] at hsc
        | some l => exact ⟨s, Placed.stepJmp (r := []) hP hlp.2 s, hm, rfl⟩
      | cont =>
        intro m out h _ lp g code p s tc tb hsc hP hm _ hlp
        cases h
        cases lp with
        | none => simp [Scoped] at hsc
        | some l => exact ⟨s, Placed.stepJmp (r := []) hP (hlp.1 rfl) s, hm, rfl⟩
      | ifBrk c =>
        intro m out h hfr lp g code p s tc tb hsc hP hm hinv hlp
        cases h
        cases lp with
        | none => simp [Scoped] at hsc
        | some l => exact case_condJump L c hfr g l.2 .brk tc tb (.inl ⟨rfl, rfl⟩) hP hm hinv hlp.2
      | ifCont c =>
        intro m out h hfr lp g code p s tc tb hsc hP hm hinv hlp
        cases h
        cases lp with
        | none => simp [Scoped] at hsc
        | some l => exact case_condJump L c hfr g l.1 .cont tc tb (.inr ⟨rfl, rfl⟩) hP hm hinv (hlp.1 rfl)

end CV.GenStruct
