/-
  The line machine on emitted code: where `findLbl` finds a label in concatenated code, runs of `stepG` (`Steps`), and a
  block placed in a code list (`Placed`: its lines sit at consecutive positions and its labels resolve into it), which
  is all that a proof about running the block needs to know of the code around it.
-/
import CV.GenStruct
namespace CV.GenStruct
open CV.GenFlat

/-- the labels a piece of code defines, in order -/
def labels : List GLine → List Lbl
  | [] => []
  | .lab l :: r => l :: labels r
  | _ :: r => labels r

@[simp] theorem labels_nil : labels [] = [] := rfl
@[simp] theorem labels_lab (l : Lbl) (r : List GLine) : labels (.lab l :: r) = l :: labels r := rfl
@[simp] theorem labels_ins (mn : Mn) (a : Option Atom) (r : List GLine) : labels (.ins mn a :: r) = labels r := rfl
@[simp] theorem labels_br (mn : Mn) (l : Lbl) (r : List GLine) : labels (.br mn l :: r) = labels r := rfl
@[simp] theorem labels_jmp (l : Lbl) (r : List GLine) : labels (.jmp l :: r) = labels r := rfl

@[simp] theorem labels_append (p q : List GLine) : labels (p ++ q) = labels p ++ labels q := by
  induction p with
  | nil => rfl
  | cons x xs ih => cases x <;> simp [labels, ih]

theorem mem_labels {c : List GLine} {l : Lbl} : l ∈ labels c ↔ GLine.lab l ∈ c := by
  induction c with
  | nil => simp
  | cons x xs ih => cases x <;> simp [ih]

theorem findLbl_cons (x : GLine) (r : List GLine) (l : Lbl) :
    findLbl (x :: r) l = if x = .lab l then some 0 else (findLbl r l).map (· + 1) := by
  cases x <;> simp [findLbl]

theorem findLbl_none_of_not_mem {p : List GLine} {l : Lbl} (h : l ∉ labels p) : findLbl p l = none := by
  rw [mem_labels] at h
  induction p with
  | nil => rfl
  | cons x xs ih =>
    rw [List.mem_cons, not_or] at h
    rw [findLbl_cons, if_neg (Ne.symm h.1), ih h.2]; rfl

theorem findLbl_append (p q : List GLine) (l : Lbl) :
    findLbl (p ++ q) l =
      match findLbl p l with
      | some j => some j
      | none => (findLbl q l).map (· + p.length) := by
  induction p with
  | nil => simp [findLbl]
  | cons x xs ih =>
    rw [List.cons_append, findLbl_cons, findLbl_cons, ih]
    split
    · rfl
    · cases findLbl xs l <;> cases findLbl q l <;> simp; omega

theorem findLbl_of_getElem? {blk : List GLine} (hnd : (labels blk).Nodup) {k : Nat} {l : Lbl}
    (hk : blk[k]? = some (.lab l)) : findLbl blk l = some k := by
  induction blk generalizing k with
  | nil => simp at hk
  | cons x xs ih =>
    cases k with
    | zero => simp at hk; subst hk; simp [findLbl]
    | succ k =>
      rw [List.getElem?_cons_succ] at hk
      have hne : x ≠ .lab l := by
        rintro rfl
        exact (List.nodup_cons.mp hnd).1 (mem_labels.mpr (List.mem_of_getElem? hk))
      have hnd' : (labels xs).Nodup := by cases x <;> first | exact hnd | exact (List.nodup_cons.mp hnd).2
      rw [findLbl_cons, if_neg hne, ih hnd' hk]; rfl

/-- `Steps L code pc s pc' s'`: the line machine `stepG` gets from line `pc` in state `s` to line `pc'` in state `s'` -/
inductive Steps (L : Layout) (code : List GLine) : Nat → Cpu → Nat → Cpu → Prop
  | refl (pc : Nat) (s : Cpu) : Steps L code pc s pc s
  | step {pc pc' pc'' : Nat} {s s' s'' : Cpu} :
      stepG L code pc s = some (pc', s') → Steps L code pc' s' pc'' s'' → Steps L code pc s pc'' s''

theorem Steps.trans {L : Layout} {code : List GLine} {p1 p2 p3 : Nat} {s1 s2 s3 : Cpu}
    (h1 : Steps L code p1 s1 p2 s2) (h2 : Steps L code p2 s2 p3 s3) : Steps L code p1 s1 p3 s3 := by
  induction h1 with
  | refl => exact h2
  | step hs _ ih => exact .step hs (ih h2)

theorem Steps.single {L : Layout} {code : List GLine} {pc pc' : Nat} {s s' : Cpu}
    (h : stepG L code pc s = some (pc', s')) : Steps L code pc s pc' s' :=
  .step h (.refl _ _)

theorem Steps.to_runG {L : Layout} {code : List GLine} {pc pc' : Nat} {s s' : Cpu}
    (h : Steps L code pc s pc' s') (he : pc' = code.length) :
    ∃ fuel, runG L code code.length fuel pc s = some s' := by
  induction h with
  | refl pc s => exact ⟨0, by simp [runG, he]⟩
  | @step pc0 pc1 pc2 s0 s1 s2 hs _ ih =>
    obtain ⟨f, hf⟩ := ih he
    refine ⟨f + 1, ?_⟩
    have hne : pc0 ≠ code.length := by
      intro e
      rw [e] at hs
      simp [stepG] at hs
    simp [runG, hne, hs, hf]

section
variable {L : Layout} {code : List GLine} {p : Nat} {s : Cpu}

theorem Steps.lab {l : Lbl} (hk : code[p]? = some (.lab l)) : Steps L code p s (p + 1) s :=
  .single (by simp [stepG, hk])

theorem Steps.ins {mn : Mn} {a : Option Atom} {s' : Cpu} (hk : code[p]? = some (.ins mn a))
    (he : s.exec mn (opdOf L a) = some s') : Steps L code p s (p + 1) s' :=
  .single (by simp [stepG, hk, he])

theorem Steps.br {mn : Mn} {l : Lbl} {b : Bool} {t : Nat} (hk : code[p]? = some (.br mn l))
    (ht : Cpu.taken s.f mn = some b) (hl : findLbl code l = some t) : Steps L code p s (if b then t else p + 1) s :=
  .single (by cases b <;> simp [stepG, hk, ht, hl])

theorem Steps.jmp {l : Lbl} {t : Nat} (hk : code[p]? = some (.jmp l)) (hl : findLbl code l = some t) :
    Steps L code p s t s :=
  .single (by simp [stepG, hk, hl])

end

/-- the lines of `blk` are the lines of `code` from `p` on (`get`), and a label defined in `blk` resolves to its line there
    (`lbl`; `findLbl` gives the first definition in `code`, so no line before `p` defines a label of `blk`) -/
structure Placed (code : List GLine) (p : Nat) (blk : List GLine) : Prop where
  get : ∀ k x, blk[k]? = some x → code[p + k]? = some x
  lbl : ∀ k l, blk[k]? = some (.lab l) → findLbl code l = some (p + k)

theorem getElem?_append_some {α} {a : List α} (b : List α) {k : Nat} {x : α} (h : a[k]? = some x) :
    (a ++ b)[k]? = some x := by
  rw [List.getElem?_append_left (List.getElem?_eq_some_iff.mp h).1, h]

theorem getElem?_mid {α} (pre : List α) {blk : List α} (post : List α) {k : Nat} {x : α} (h : blk[k]? = some x) :
    (pre ++ blk ++ post)[pre.length + k]? = some x := by
  rw [List.append_assoc, List.getElem?_append_right (Nat.le_add_right ..), Nat.add_sub_cancel_left]
  exact getElem?_append_some post h

namespace Placed
variable {L : Layout} {code : List GLine} {p : Nat}

theorem left {a b : List GLine} (h : Placed code p (a ++ b)) : Placed code p a :=
  { get := fun k x hk => h.get k x (getElem?_append_some b hk), lbl := fun k l hk => h.lbl k l (getElem?_append_some b hk) }

theorem right {a b : List GLine} (h : Placed code p (a ++ b)) : Placed code (p + a.length) b := by
  have e : ∀ k, (a ++ b)[a.length + k]? = b[k]? := fun k => by
    rw [List.getElem?_append_right (Nat.le_add_right ..), Nat.add_sub_cancel_left]
  exact { get := fun k x hk => Nat.add_assoc .. ▸ h.get _ x (by rw [e, hk]),
          lbl := fun k l hk => Nat.add_assoc .. ▸ h.lbl _ l (by rw [e, hk]) }

theorem head {x : GLine} {r : List GLine} (h : Placed code p (x :: r)) : code[p]? = some x := h.get 0 x rfl

theorem tail {x : GLine} {r : List GLine} (h : Placed code p (x :: r)) : Placed code (p + 1) r := right (a := [x]) h

theorem find {l : Lbl} {r : List GLine} (h : Placed code p (.lab l :: r)) : findLbl code l = some p := h.lbl 0 l rfl

theorem stepLab {l : Lbl} {r : List GLine} (h : Placed code p (.lab l :: r)) (s : Cpu) : Steps L code p s (p + 1) s :=
  Steps.lab h.head

theorem stepJmp {l : Lbl} {r : List GLine} {t : Nat} (h : Placed code p (.jmp l :: r)) (hl : findLbl code l = some t) (s : Cpu) :
    Steps L code p s t s :=
  Steps.jmp h.head hl

theorem steps_of_execSeq (ops : List (Mn × Option Atom)) : ∀ {p : Nat} {s s' : Cpu},
    Placed code p (ops.map fun q => GLine.ins q.1 q.2) → execSeq s (ops.map fun q => (q.1, opdOf L q.2)) = some s' →
    Steps L code p s (p + ops.length) s' := by
  induction ops with
  | nil => intro p s s' _ h; cases h; exact .refl _ _
  | cons x xs ih =>
    intro p s s' hP h
    simp only [List.map_cons, execSeq, Option.bind_eq_some_iff] at h
    obtain ⟨s1, h1, h2⟩ := h
    have h3 := ih hP.tail h2
    rw [Nat.add_right_comm] at h3
    exact (Steps.ins hP.head h1).trans h3

theorem intro {pre blk : List GLine} (post : List GLine) (hnd : (labels blk).Nodup)
    (hnew : ∀ l ∈ labels blk, l ∉ labels pre) : Placed (pre ++ blk ++ post) pre.length blk := by
  refine { get := fun k x hk => getElem?_mid pre post hk, lbl := fun k l hk => ?_ }
  rw [List.append_assoc, findLbl_append, findLbl_none_of_not_mem (hnew l (mem_labels.mpr (List.mem_of_getElem? hk))),
    findLbl_append, findLbl_of_getElem? hnd hk]
  simp [Nat.add_comm]

end Placed

theorem step_br_taken (L : Layout) (pre post : List GLine) (mn : Mn) (l : Lbl) (s : Cpu) (t : Nat)
    (ht : Cpu.taken s.f mn = some true) (hl : findLbl (pre ++ .br mn l :: post) l = some t) :
    stepG L (pre ++ .br mn l :: post) pre.length s = some (t, s) := by
  simp [stepG, ht, hl]

theorem step_br_not (L : Layout) (pre post : List GLine) (mn : Mn) (l : Lbl) (s : Cpu)
    (ht : Cpu.taken s.f mn = some false) :
    stepG L (pre ++ .br mn l :: post) pre.length s = some (pre.length + 1, s) := by
  simp [stepG, ht]

theorem jmp_step (L : Layout) (pre blk post : List GLine) (k : Nat) (l : Lbl) (s : Cpu) (t : Nat)
    (hk : blk[k]? = some (.jmp l)) (hl : findLbl (pre ++ blk ++ post) l = some t) :
    Steps L (pre ++ blk ++ post) (pre.length + k) s t s :=
  Steps.jmp (getElem?_mid pre post hk) hl

end CV.GenStruct
