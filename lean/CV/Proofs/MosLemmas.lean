/- What the arithmetic helpers of CV.Mos leave in the accumulator and the flags, as equations on bytes. -/
import CV.Mos
namespace CV.Cpu

theorem cmp_z (s : Cpu) (r v : Byte) : (s.cmp r v).f.z = (r == v) := by
  show (r - v == 0) = (r == v)
  rw [Bool.eq_iff_iff]
  simp [BitVec.sub_eq_iff_eq_add]

theorem adc_a (s : Cpu) (v : Byte) : (s.adc v).a = s.a + v + (if s.f.c then 1 else 0) := by
  apply BitVec.eq_of_toNat_eq
  cases h : s.f.c <;> simp [adc, BitVec.toNat_add, h]

theorem adc_c (s : Cpu) (v : Byte) : (s.adc v).f.c = decide (s.a.toNat + v.toNat + (if s.f.c then 1 else 0) ≥ 256) := rfl

/-- SBC is ADC of the complement, and `~~~v = -v - 1` -/
theorem sbc_a (s : Cpu) (v : Byte) : (s.sbc v).a = s.a - v - (if s.f.c then 0 else 1) := by
  rw [sbc, adc_a, BitVec.not_eq_neg_add]
  cases s.f.c <;> simp [BitVec.sub_eq_add_neg, BitVec.add_assoc]

theorem sbc_c (s : Cpu) (v : Byte) : (s.sbc v).f.c = decide (v.toNat + (if s.f.c then 0 else 1) ≤ s.a.toNat) := by
  rw [sbc, adc_c]
  have := s.a.isLt; have := v.isLt
  cases s.f.c <;> simp [BitVec.toNat_not] <;> omega

end CV.Cpu
