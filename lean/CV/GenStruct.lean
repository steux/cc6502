/-
  CV.GenStruct — port of the code generator for the declared fragment, stage 2: structured
  control flow over the statements of stage 1 (CV.GenFlat):
      if (c) S      if (c) S else S      while (c) S      do S while (c);      for (F; c; F) S
      { S ... }     c ::= a ⋈ b  |  v  |  !v        ⋈ ∈ == != < >= > <=     (a, b atoms, unsigned char)
  What is ported (generate_conditions.rs, generate_statements.rs, at -O0):
    * generate_if / generate_while / generate_do_while / generate_for_loop: label allocation from the
      per-kind counters and the order of the pieces;
    * generate_condition / generate_condition_ex / generate_branch_instruction for 8-bit operands:
      operand switch, negation and mirroring of the operator, the `.ifhere` detour of `>`;
    * the generator's belief about the processor flags (`FlagsState`): a test against zero of the
      variable the flags describe emits no load (`a = b; if (a)` → `LDA b ; STA a ; BEQ`); labels
      forget it; `else` restores the belief saved after the condition.
  The port is compared text-for-text (instructions AND labels) with the real -O0 output by the
  C01 check. CV.Props.C01 proves it correct against the 6502 semantics, including the soundness of
  the flag belief, for every program of the fragment.
-/
import CV.GenReg
namespace CV.GenStruct
open CV.GenFlat CV.GenReg

inductive COp where | eq | ne | lt | ge | gt | le
  deriving Repr, DecidableEq, Inhabited

inductive Cond where
  | cmp (op : COp) (a b : RA)
  | truth (v : LV)              -- `if (v)`, `if (X)`
  | nottruth (v : LV)           -- `if (!v)`
  | and (a b : Cond)            -- `a && b`
  | or (a b : Cond)             -- `a || b`
  | not (c : Cond)              -- `!(c)`
  | cmpE (op : COp) (e : GExpr) (b : Atom) (eLeft : Bool)   -- `(e) ⋈ b` / `b ⋈ (e)`, e a quiet tree (stage 12)
  | truthE (e : GExpr)          -- `if (e)` for a tree
  | cmpR (op : COp) (e : GExpr) (y : Bool) (eLeft : Bool)   -- a tree against X (`y = false`) or Y (stage 13)
  | wcmp (ne : Bool) (s : String) (w : WA)      -- `s == w` / `s != w` on a 16-bit variable (stage 14); `if (s)` is `s != 0`
  deriving Repr, DecidableEq, Inhabited

inductive SStmt where
  | flat (s : RStmt)
  | skip                                          -- `{ }`
  | forget                                        -- no code: the generator sets its flag belief to Unknown (stage 9)
  | seq (a b : SStmt)
  | ifThen (c : Cond) (t : SStmt)
  | ifElse (c : Cond) (t e : SStmt)
  | while (c : Cond) (b : SStmt)
  | doWhile (b : SStmt) (c : Cond)
  | for (init : RStmt) (c : Cond) (upd : RStmt) (b : SStmt)
  | brk                                           -- `break;`     (stage 5)
  | cont                                          -- `continue;`
  | ifBrk (c : Cond)                              -- `if (c) break;` without braces: one branch to the break label
  | ifCont (c : Cond)                             -- `if (c) continue;`
  deriving Repr, Inhabited

/-- `s++` on a 16-bit variable (stage 9): `INC s ; BNE .ifendN ; INC s+1 ; .ifendN:` — the text the generator
    emits is that of "low byte ++ ; if it became 0, high byte ++", with the flag belief the increment leaves -/
def incW (s : String) : SStmt :=
  .seq (.flat (.inc (.var s))) (.ifThen (.nottruth (.var s)) (.flat (.inc (.el s (.k 1)))))

/-- `s--`: `LDA s ; BNE .ifendN ; DEC s+1 ; .ifendN: ; DEC s`, flags Unknown afterwards -/
def decW (s : String) : SStmt :=
  .seq (.ifThen (.nottruth (.var s)) (.flat (.dec (.el s (.k 1))))) (.seq (.flat (.dec (.var s))) .forget)

/-! ### labels -/

inductive LKind where
  | ifend | else_ | ifhere | ifstart | while_ | whileend | dowhile | dowhileend | dowhilecondition | for_ | forupdate | forend
  deriving Repr, DecidableEq, Inhabited

/-- which of the generator's three counters names a label of this kind -/
inductive Ctr where | cIf | cWhile | cFor
  deriving Repr, DecidableEq, Inhabited

def LKind.ctr : LKind → Ctr
  | .ifend | .else_ | .ifhere | .ifstart => .cIf
  | .while_ | .whileend | .dowhile | .dowhileend | .dowhilecondition => .cWhile
  | .for_ | .forupdate | .forend => .cFor

def LKind.text : LKind → String
  | .ifend => ".ifend" | .else_ => ".else" | .ifhere => ".ifhere" | .ifstart => ".ifstart"
  | .while_ => ".while" | .whileend => ".whileend" | .dowhile => ".dowhile" | .dowhileend => ".dowhileend"
  | .dowhilecondition => ".dowhilecondition"
  | .for_ => ".for" | .forupdate => ".forupdate" | .forend => ".forend"

structure Lbl where
  kind : LKind
  n : Nat
  deriving Repr, DecidableEq, Inhabited

def Lbl.text (l : Lbl) : String := l.kind.text ++ toString l.n

/-- position of a label in the allocation order of its counter: every kind is named with the counter's
    value *after* the increment, except `.ifstart`, which `generate_condition` names with the value
    *before* it (`format!(".ifstart{}", counter); counter += 1`) -/
def Lbl.idx (l : Lbl) : Nat :=
  match l.kind with
  | .ifstart => l.n + 1
  | _ => l.n

/-- one emitted line -/
inductive GLine where
  | ins (mn : Mn) (a : Option Atom)     -- data instruction; `none` = implied operand (CLC, SEC)
  | br (mn : Mn) (l : Lbl)              -- conditional branch
  | jmp (l : Lbl)
  | lab (l : Lbl)
  deriving Repr, DecidableEq, Inhabited

/-! ### the generator's state -/

structure GState where
  flags : Option FRef := none       -- `FlagsState::Absolute(v, true, 0)` / `X` / `Y`; `none` = Unknown
  cIf : Nat := 0
  cWhile : Nat := 0
  cFor : Nat := 0
  abs : List String := []           -- arrays declared outside the zero page (`VariableMemory` ≠ Zeropage)
  deriving Repr, DecidableEq, Inhabited

/-- is the array in the zero page? (decides between `STY t,X` and `TYA ; STA t,X`) -/
def zpL (abs : List String) (t : String) : Bool := !abs.contains t

def GState.ctr (g : GState) : Ctr → Nat
  | .cIf => g.cIf | .cWhile => g.cWhile | .cFor => g.cFor

/-! ### conditions -/

def COp.negate : COp → COp
  | .eq => .ne | .ne => .eq | .gt => .le | .ge => .lt | .lt => .ge | .le => .gt

/-- the operator after the operands were exchanged -/
def COp.mirror : COp → COp
  | .eq => .eq | .ne => .ne | .gt => .lt | .ge => .le | .lt => .gt | .le => .ge

def COp.ordered : COp → Bool
  | .eq | .ne => false | _ => true

/-- `generate_branch_instruction` (unsigned) -/
def branchInstr (g : GState) (op : COp) (label : Lbl) : List GLine × GState :=
  match op with
  | .ne => ([.br .BNE label], g)
  | .eq => ([.br .BEQ label], g)
  | .lt => ([.br .BCC label], g)
  | .ge => ([.br .BCS label], g)
  | .le => ([.br .BCC label, .br .BEQ label], g)
  | .gt =>
    let here : Lbl := ⟨.ifhere, g.cIf + 1⟩
    ([.br .BEQ here, .br .BCS label, .lab here], { g with cIf := g.cIf + 1, flags := none })

/-- an element subscripted by a register -/
def RA.isRegEl : RA → Bool
  | .of (.el _ .x) | .of (.el _ .y) => true
  | _ => false

def RA.isZero : RA → Bool
  | .of (.const n) => n == 0
  | _ => false

/-- operands of a comparison after `generate_condition_ex` put them in order: a register goes left, a
    constant goes right (`switch` = they were exchanged): (left, right, switch) -/
def orient (l r : RA) : RA × RA × Bool :=
  match l with
  | .x | .y => (l, r, false)
  | .of (.const _) => (r, l, true)
  | .of _ => if r.isReg then (r, l, true) else (l, r, false)

/-- the operator after negation and, when the operands were exchanged, mirroring -/
def finalOp (op : COp) (negate switch : Bool) : COp :=
  let opx := if negate then op.negate else op
  if switch then opx.mirror else opx

/-- bring the value of `ref` into the flags: `LDA v` / `CPX #0` / `CPY #0` -/
def loadRefMn : LV → Mn
  | .var _ => .LDA
  | .x => .CPX
  | .y => .CPY
  | .el _ _ => .LDA

def loadRefOp : LV → Atom
  | .var v => .var v
  | .el t i => .el t i
  | _ => .const 0

def loadRef (ref : LV) : List GLine := [.ins (loadRefMn ref) (some (loadRefOp ref))]

/-- comparison of `ref` with literal 0 by the flags alone: no compare instruction; no load either when
    the flags already describe `ref` (`flags_ok`). Ordered operators are outside the fragment. -/
def zeroTest (g : GState) (ref : LV) (operator : COp) (label : Lbl) : List GLine × GState :=
  let pre : List GLine := if g.flags == some ref then [] else loadRef ref
  let g1 : GState := if g.flags == some ref then g else { g with flags := some ref }
  match operator with
  | .ne => (pre ++ [.br .BNE label], g1)
  | .eq => (pre ++ [.br .BEQ label], g1)
  | _ => ([], g)

def cmpMn : LV → Mn
  | .var _ => .CMP
  | .x => .CPX
  | .y => .CPY
  | .el _ _ => .CMP

/-- `LDA v ; CMP right` / `CPX right` / `CPY right`; a register against an element subscripted by a
    register goes through A (`CPX t,X` does not exist) -/
def cmpPre : LV → Atom → List GLine
  | .var v, right => [.ins .LDA (some (.var v)), .ins .CMP (some right)]
  | .el t i, right => [.ins .LDA (some (.el t i)), .ins .CMP (some right)]
  | .x, .el t .x => [.ins .TXA none, .ins .CMP (some (.el t .x))]
  | .x, .el t .y => [.ins .TXA none, .ins .CMP (some (.el t .y))]
  | .x, right => [.ins .CPX (some right)]
  | .y, .el t .x => [.ins .TYA none, .ins .CMP (some (.el t .x))]
  | .y, .el t .y => [.ins .TYA none, .ins .CMP (some (.el t .y))]
  | .y, right => [.ins .CPY (some right)]

/-- the compare, then the branches; the flags are unknown afterwards -/
def cmpTest (g : GState) (left : LV) (right : Atom) (operator : COp) (label : Lbl) : List GLine × GState :=
  let r := branchInstr { g with flags := none } operator label
  (cmpPre left right ++ r.1, r.2)

/-- `generate_condition_ex`: jump to `label` iff `(l op r) ≠ negate` -/
def genCondEx (g : GState) (l r : RA) (op : COp) (negate : Bool) (label : Lbl) : List GLine × GState :=
  match orient l r with
  | (.of (.const _), _, _) => ([], g)                 -- two constants: outside the fragment
  | (.of (.var v), .of right, switch) =>
    if RA.isZero (.of right) then zeroTest g (.var v) (finalOp op negate switch) label
    else cmpTest g (.var v) right (finalOp op negate switch) label
  | (.of (.el t i), .of right, switch) =>
    if RA.isZero (.of right) then zeroTest g (.el t i) (finalOp op negate switch) label
    else cmpTest g (.el t i) right (finalOp op negate switch) label
  | (.of _, _, _) => ([], g)                          -- cannot happen: a register right operand goes left
  | (.x, .of right, switch) =>
    if RA.isZero (.of right) && g.flags == some .x then zeroTest g .x (finalOp op negate switch) label
    else cmpTest g .x right (finalOp op negate switch) label
  | (.y, .of right, switch) =>
    if RA.isZero (.of right) && g.flags == some .y then zeroTest g .y (finalOp op negate switch) label
    else cmpTest g .y right (finalOp op negate switch) label
  | (_, _, _) => ([], g)                              -- two registers: outside the fragment

/-- the code of a tree whose value goes to the accumulator -/
def treeOps (e : GExpr) : List (Mn × Option Atom) :=
  match genE (none : Option Atom) (fun a => some a) {} e with
  | some (c, .acc, _) => c
  | _ => []

def treeLines (e : GExpr) : List GLine := (treeOps e).map fun p => GLine.ins p.1 p.2

/-- a tree against a memory operand or a constant: the tree's value is in A (left operand of the compare; the
    operator is mirrored when the tree was written on the right); `== 0` / `!= 0` need no compare -/
def cmpETest (g : GState) (op : COp) (e : GExpr) (b : Atom) (eLeft negate : Bool) (label : Lbl) : List GLine × GState :=
  if RA.isZero (.of b) then
    match finalOp op negate (!eLeft) with
    | .ne => (treeLines e ++ [.br .BNE label], { g with flags := none })
    | .eq => (treeLines e ++ [.br .BEQ label], { g with flags := none })
    | _ => ([], g)
  else
    (treeLines e ++ [.ins .CMP (some b)] ++ (branchInstr { g with flags := none } (finalOp op negate (!eLeft)) label).1,
     (branchInstr { g with flags := none } (finalOp op negate (!eLeft)) label).2)

/-- a tree against X or Y: the tree's value goes to the scratch cell, the register is compared with it
    (`STA cctmp ; CPX cctmp`); the register is the left operand of the compare -/
def cmpRTest (g : GState) (op : COp) (e : GExpr) (y eLeft negate : Bool) (label : Lbl) : List GLine × GState :=
  (treeLines e ++ [.ins .STA (some tmp), .ins (if y then .CPY else .CPX) (some tmp)] ++
     (branchInstr { g with flags := none } (finalOp op negate eLeft) label).1,
   (branchInstr { g with flags := none } (finalOp op negate eLeft) label).2)

/-- the two byte passes of a 16-bit (in)equality: low difference to the scratch cell, high difference in A; against
    literal 0 the bytes themselves -/
def wcmpPre (s : String) (w : WA) : List (Mn × Option Atom) :=
  if w == .wconst 0 then [(.LDA, some (.var s)), (.STA, some tmp), (.LDA, some (hiCell s))]
  else [(.LDA, some (.var s)), (.SEC, none), (.SBC, some w.lo), (.STA, some tmp), (.LDA, some (hiCell s)), (.SBC, some w.hi)]

/-- jump on "different": two branches to the label; jump on "equal": over an `.ifstart` label -/
def wcmpTest (g : GState) (ne : Bool) (s : String) (w : WA) (negate : Bool) (label : Lbl) : List GLine × GState :=
  if (ne != negate) then
    ((wcmpPre s w).map (fun p => GLine.ins p.1 p.2) ++ [.br .BNE label, .ins .LDA (some tmp), .br .BNE label], { g with flags := none })
  else
    ((wcmpPre s w).map (fun p => GLine.ins p.1 p.2) ++
        [.br .BNE ⟨.ifstart, g.cIf⟩, .ins .LDA (some tmp), .br .BEQ label, .lab ⟨.ifstart, g.cIf⟩],
     { g with cIf := g.cIf + 1, flags := none })

/-- `if (e)`: the flags describe A after an arithmetic operation, not after a shift (`CMP #0` then) -/
def truthETest (g : GState) (e : GExpr) (negate : Bool) (label : Lbl) : List GLine × GState :=
  (treeLines e ++ (if e.topArithm then [] else [.ins .CMP (some (.const 0))]) ++ [.br (if negate then .BEQ else .BNE) label],
   { g with flags := none })

/-- `generate_condition`: jump to `label` iff `c ≠ negate`; `if (v)` is `v != 0`, `if (!v)` is `v == 0`;
    `&&` / `||` evaluate left to right and stop early: in the direction where the first operand cannot
    decide alone they jump over the second test to an `.ifstart` label placed behind it -/
def genCond (g : GState) : Cond → Bool → Lbl → List GLine × GState
  | .cmp op a b, negate, label => genCondEx g a b op negate label
  | .truth v, negate, label => zeroTest g v (finalOp .ne negate false) label
  | .nottruth v, negate, label => zeroTest g v (finalOp .eq negate false) label
  | .not c, negate, label => genCond g c (!negate) label
  | .cmpE op e b eLeft, negate, label => cmpETest g op e b eLeft negate label
  | .truthE e, negate, label => truthETest g e negate label
  | .cmpR op e y eLeft, negate, label => cmpRTest g op e y eLeft negate label
  | .wcmp ne s w, negate, label => wcmpTest g ne s w negate label
  | .and a b, true, label =>
    let r1 := genCond g a true label
    let r2 := genCond r1.2 b true label
    (r1.1 ++ r2.1, r2.2)
  | .and a b, false, label =>
    let st : Lbl := ⟨.ifstart, g.cIf⟩
    let r1 := genCond { g with cIf := g.cIf + 1 } a true st
    let r2 := genCond r1.2 b false label
    (r1.1 ++ r2.1 ++ [.lab st], { r2.2 with flags := none })
  | .or a b, true, label =>
    let st : Lbl := ⟨.ifstart, g.cIf⟩
    let r1 := genCond { g with cIf := g.cIf + 1 } a false st
    let r2 := genCond r1.2 b true label
    (r1.1 ++ r2.1 ++ [.lab st], { r2.2 with flags := none })
  | .or a b, false, label =>
    let r1 := genCond g a false label
    let r2 := genCond r1.2 b false label
    (r1.1 ++ r2.1, r2.2)

/-- does a single test jump to the target label? (`has_single_exit` of generate_if: only then is the flag
    belief after the condition also true at the target) -/
def Cond.singleExit : Cond → Bool
  | .and _ _ | .or _ _ => false
  | .not c => c.singleExit
  | _ => true

/-! ### statements -/

def flatLines (zp : String → Bool) (s : RStmt) : List GLine :=
  (rtemplate (none : Option Atom) (fun a => some a) zp s).map fun p => .ins p.1 p.2

def genFlat (g : GState) (s : RStmt) : List GLine × GState :=
  (flatLines (zpL g.abs) s, { g with flags := flagsAfter (zpL g.abs) g.flags s })

/-- does the statement contain a `continue` that belongs to the loop it is the body of (not to a loop inside it)?
    (`generate_continue` marks the innermost entry of the `loops` stack; `generate_do_while` emits the
    `.dowhilecondition` label only when its entry was marked) -/
def contHere : SStmt → Bool
  | .cont => true
  | .ifCont _ => true
  | .seq a b => contHere a || contHere b
  | .ifThen _ t => contHere t
  | .ifElse _ t e => contHere t || contHere e
  | _ => false

/-- the innermost loop: (label a `continue` jumps to, label a `break` jumps to) — the top of the generator's
    `loops` stack. It is a parameter of `gen`, not part of the state: a loop passes its own labels to its body -/
abbrev LoopCtx := Option (Lbl × Lbl)

def gen (lp : LoopCtx) (g : GState) : SStmt → List GLine × GState
  | .flat s => genFlat g s
  | .skip => ([], g)
  | .forget => ([], { g with flags := none })
  | .brk => (match lp with | some (_, bl) => ([.jmp bl], g) | none => ([], g))
  | .cont => (match lp with | some (cl, _) => ([.jmp cl], g) | none => ([], g))
  -- `generate_if` with a bare `break` / `continue` as body: the counter is taken, the label is not used;
  -- the condition branches to the loop's label itself
  | .ifBrk c => (match lp with
      | some (_, bl) => genCond { g with cIf := g.cIf + 1 } c false bl
      | none => ([], { g with cIf := g.cIf + 1 }))
  | .ifCont c => (match lp with
      | some (cl, _) => genCond { g with cIf := g.cIf + 1 } c false cl
      | none => ([], { g with cIf := g.cIf + 1 }))
  | .seq a b =>
    let (ca, g1) := gen lp g a
    let (cb, g2) := gen lp g1 b
    (ca ++ cb, g2)
  | .ifThen c t =>
    let g0 := { g with cIf := g.cIf + 1 }
    let ifend : Lbl := ⟨.ifend, g0.cIf⟩
    let (cc, g1) := genCond g0 c true ifend
    let (ct, g2) := gen lp g1 t
    (cc ++ ct ++ [.lab ifend], { g2 with flags := none })
  | .ifElse c t e =>
    let g0 := { g with cIf := g.cIf + 1 }
    let ifend : Lbl := ⟨.ifend, g0.cIf⟩
    let els : Lbl := ⟨.else_, g0.cIf⟩
    let (cc, g1) := genCond g0 c true els
    let (ct, g2) := gen lp g1 t
    let (ce, g3) := gen lp { g2 with flags := if c.singleExit then g1.flags else none } e
    (cc ++ ct ++ [.jmp ifend, .lab els] ++ ce ++ [.lab ifend], { g3 with flags := none })
  | .while c b =>
    let g0 := { g with cWhile := g.cWhile + 1, flags := none }
    let wl : Lbl := ⟨.while_, g0.cWhile⟩
    let we : Lbl := ⟨.whileend, g0.cWhile⟩
    let (cc, g1) := genCond g0 c true we
    let (cb, g2) := gen (some (wl, we)) g1 b
    ([.lab wl] ++ cc ++ cb ++ [.jmp wl, .lab we], { g2 with flags := none })
  | .doWhile b c =>
    let g0 := { g with cWhile := g.cWhile + 1, flags := none }
    let dl : Lbl := ⟨.dowhile, g0.cWhile⟩
    let dc : Lbl := ⟨.dowhilecondition, g0.cWhile⟩
    let de : Lbl := ⟨.dowhileend, g0.cWhile⟩
    let (cb, g1) := gen (some (dc, de)) g0 b
    -- the label a `continue` jumps to exists only when the body has one (and forgets the flags)
    let mid : List GLine := if contHere b then [.lab dc] else []
    let (cc, g2) := genCond (if contHere b then { g1 with flags := none } else g1) c false dl
    ([.lab dl] ++ cb ++ mid ++ cc ++ [.lab de], { g2 with flags := none })
  | .for init c upd b =>
    let g0 := { g with cFor := g.cFor + 1 }
    let fl : Lbl := ⟨.for_, g0.cFor⟩
    let fu : Lbl := ⟨.forupdate, g0.cFor⟩
    let fe : Lbl := ⟨.forend, g0.cFor⟩
    let (ci, g1) := genFlat g0 init
    let (c1, g2) := genCond g1 c true fe
    let (cb, g3) := gen (some (fu, fe)) { g2 with flags := none } b
    let (cu, g4) := genFlat { g3 with flags := none } upd
    let (c2, g5) := genCond g4 c false fl
    (ci ++ c1 ++ [.lab fl] ++ cb ++ [.lab fu] ++ cu ++ c2 ++ [.lab fe], { g5 with flags := none })

/-! ### the declared fragment -/

def CondOK : Cond → Bool
  | .cmp op a b => !(a.isConst && b.isConst) && !(a.isReg && b.isReg) && !(op.ordered && (RA.isZero a || RA.isZero b))
      && !(RA.isRegEl a && b.isReg)   -- `t[X] == X` compares X with itself (known finding): outside the fragment
  | .and a b => CondOK a && CondOK b
  | .or a b => CondOK a && CondOK b
  | .not c => CondOK c
  | .cmpE op e b _ => e.ok && !(op.ordered && RA.isZero (.of b))
  | .truthE e => e.ok
  | .cmpR _ e _ _ => e.ok && e.tmpFree
  | _ => true

def SInFragment : SStmt → Bool
  | .flat s => RInFragment s
  | .skip => true
  | .forget => true
  | .seq a b => SInFragment a && SInFragment b
  | .ifThen c t => CondOK c && SInFragment t
  | .ifElse c t e => CondOK c && SInFragment t && SInFragment e
  | .while c b => CondOK c && SInFragment b
  | .doWhile b c => CondOK c && SInFragment b
  | .for i c u b => RInFragment i && CondOK c && RInFragment u && SInFragment b
  | .brk | .cont => true
  | .ifBrk c | .ifCont c => CondOK c

/-- `break` and `continue` occur inside loops only (`inLoop` = we are inside one) -/
def Scoped (inLoop : Bool) : SStmt → Bool
  | .brk | .cont | .ifBrk _ | .ifCont _ => inLoop
  | .seq a b => Scoped inLoop a && Scoped inLoop b
  | .ifThen _ t => Scoped inLoop t
  | .ifElse _ t e => Scoped inLoop t && Scoped inLoop e
  | .while _ b | .doWhile b _ | .for _ _ _ b => Scoped true b
  | _ => true

/-! ### rendering for the tie -/

def GLine.text : GLine → String
  | .ins mn (some a) => mn.name ++ ":" ++ hexStr (GenFlat.text a)
  | .ins mn none => mn.name ++ ":" ++ hexStr ""
  | .br mn l => mn.name ++ ":" ++ hexStr l.text
  | .jmp l => "JMP:" ++ hexStr l.text
  | .lab l => "L:" ++ hexStr l.text

/-! ### what the source prescribes -/

def COp.eval : COp → Byte → Byte → Bool
  | .eq, a, b => a == b
  | .ne, a, b => a != b
  | .lt, a, b => decide (a.toNat < b.toNat)
  | .ge, a, b => decide (b.toNat ≤ a.toNat)
  | .gt, a, b => decide (b.toNat < a.toNat)
  | .le, a, b => decide (a.toNat ≤ b.toNat)

/-- evaluating a condition: its truth value and the state it leaves behind. Conditions on atoms and on quiet trees
    leave the state as it was; stage 13 adds conditions whose code uses the scratch cell. `&&` / `||` evaluate their
    second operand in the state the first one left, and only when needed -/
def condRun (L : Layout) (m : SrcSt) : Cond → Bool × SrcSt
  | .cmp op a b => (op.eval (rval L m a) (rval L m b), m)
  | .truth v => (rval L m v.ra != 0, m)
  | .nottruth v => (rval L m v.ra == 0, m)
  | .and a b => if (condRun L m a).1 then condRun L (condRun L m a).2 b else (false, (condRun L m a).2)
  | .or a b => if (condRun L m a).1 then (true, (condRun L m a).2) else condRun L (condRun L m a).2 b
  | .not c => (!(condRun L m c).1, (condRun L m c).2)
  | .cmpE op e b eLeft =>
    let r := treeRun L m e
    (if eLeft then op.eval r.1 (val L r.2.mem r.2.x r.2.y b) else op.eval (val L r.2.mem r.2.x r.2.y b) r.1, r.2)
  | .truthE e => ((treeRun L m e).1 != 0, (treeRun L m e).2)
  | .cmpR op e y eLeft =>
    let r := treeRun L m e
    let reg := if y then r.2.y else r.2.x
    (if eLeft then op.eval r.1 reg else op.eval reg r.1, setTmp L r.2 r.1)
  | .wcmp ne s w => (if ne then (wcmpRun L m s w).1 else !(wcmpRun L m s w).1, (wcmpRun L m s w).2)

def evalCond (L : Layout) (m : SrcSt) (c : Cond) : Bool := (condRun L m c).1
/-- the state a condition leaves behind -/
def condEff (L : Layout) (m : SrcSt) (c : Cond) : SrcSt := (condRun L m c).2

section condLemmas
variable (L : Layout) (m : SrcSt)
@[simp] theorem evalCond_cmp (op : COp) (a b : RA) : evalCond L m (.cmp op a b) = op.eval (rval L m a) (rval L m b) := rfl
@[simp] theorem evalCond_truth (v : LV) : evalCond L m (.truth v) = (rval L m v.ra != 0) := rfl
@[simp] theorem evalCond_nottruth (v : LV) : evalCond L m (.nottruth v) = (rval L m v.ra == 0) := rfl
@[simp] theorem evalCond_cmpE (op : COp) (e : GExpr) (b : Atom) (eLeft : Bool) : evalCond L m (.cmpE op e b eLeft) =
    (if eLeft then op.eval (treeRun L m e).1 (val L (treeRun L m e).2.mem (treeRun L m e).2.x (treeRun L m e).2.y b)
     else op.eval (val L (treeRun L m e).2.mem (treeRun L m e).2.x (treeRun L m e).2.y b) (treeRun L m e).1) := rfl
@[simp] theorem evalCond_truthE (e : GExpr) : evalCond L m (.truthE e) = ((treeRun L m e).1 != 0) := rfl
@[simp] theorem evalCond_cmpR (op : COp) (e : GExpr) (y eLeft : Bool) : evalCond L m (.cmpR op e y eLeft) =
    (if eLeft then op.eval (treeRun L m e).1 (if y then (treeRun L m e).2.y else (treeRun L m e).2.x)
     else op.eval (if y then (treeRun L m e).2.y else (treeRun L m e).2.x) (treeRun L m e).1) := rfl
@[simp] theorem condEff_cmpR (op : COp) (e : GExpr) (y eLeft : Bool) : condEff L m (.cmpR op e y eLeft) =
    setTmp L (treeRun L m e).2 (treeRun L m e).1 := rfl
@[simp] theorem evalCond_wcmp (ne : Bool) (s : String) (w : WA) : evalCond L m (.wcmp ne s w) =
    (if ne then (wcmpRun L m s w).1 else !(wcmpRun L m s w).1) := rfl
@[simp] theorem condEff_wcmp (ne : Bool) (s : String) (w : WA) : condEff L m (.wcmp ne s w) = (wcmpRun L m s w).2 := rfl
@[simp] theorem evalCond_not (c : Cond) : evalCond L m (.not c) = !evalCond L m c := rfl
@[simp] theorem evalCond_and (a b : Cond) : evalCond L m (.and a b) = (evalCond L m a && evalCond L (condEff L m a) b) := by
  unfold evalCond condEff; rw [condRun]; cases (condRun L m a).1 <;> rfl
@[simp] theorem evalCond_or (a b : Cond) : evalCond L m (.or a b) = (evalCond L m a || evalCond L (condEff L m a) b) := by
  unfold evalCond condEff; rw [condRun]; cases (condRun L m a).1 <;> rfl
@[simp] theorem condEff_cmp (op : COp) (a b : RA) : condEff L m (.cmp op a b) = m := rfl
@[simp] theorem condEff_truth (v : LV) : condEff L m (.truth v) = m := rfl
@[simp] theorem condEff_nottruth (v : LV) : condEff L m (.nottruth v) = m := rfl
@[simp] theorem condEff_cmpE (op : COp) (e : GExpr) (b : Atom) (eLeft : Bool) : condEff L m (.cmpE op e b eLeft) = (treeRun L m e).2 := rfl
@[simp] theorem condEff_truthE (e : GExpr) : condEff L m (.truthE e) = (treeRun L m e).2 := rfl
@[simp] theorem condEff_not (c : Cond) : condEff L m (.not c) = condEff L m c := rfl
@[simp] theorem condEff_and (a b : Cond) : condEff L m (.and a b) =
    (if evalCond L m a then condEff L (condEff L m a) b else condEff L m a) := by
  unfold evalCond condEff; rw [condRun]; cases (condRun L m a).1 <;> rfl
@[simp] theorem condEff_or (a b : Cond) : condEff L m (.or a b) =
    (if evalCond L m a then condEff L m a else condEff L (condEff L m a) b) := by
  unfold evalCond condEff; rw [condRun]; cases (condRun L m a).1 <;> rfl
end condLemmas

/-- how a statement ends: normally, by `break`, by `continue` -/
inductive Exit where | norm | brk | cont
  deriving Repr, DecidableEq, Inhabited

abbrev Out := Exit × SrcSt

mutual
/-- big-step meaning of a statement; `none` = not finished within the fuel -/
def sem (L : Layout) : Nat → SrcSt → SStmt → Option Out
  | 0, _, _ => none
  | _ + 1, m, .flat s => some (.norm, rspec L m s)
  | _ + 1, m, .skip => some (.norm, m)
  | _ + 1, m, .forget => some (.norm, m)
  | _ + 1, m, .brk => some (.brk, m)
  | _ + 1, m, .cont => some (.cont, m)
  | _ + 1, m, .ifBrk c => some (if evalCond L m c then .brk else .norm, condEff L m c)
  | _ + 1, m, .ifCont c => some (if evalCond L m c then .cont else .norm, condEff L m c)
  | f + 1, m, .seq a b =>
    (match sem L f m a with
     | some (.norm, m1) => sem L f m1 b
     | r => r)
  | f + 1, m, .ifThen c t => if evalCond L m c then sem L f (condEff L m c) t else some (.norm, condEff L m c)
  | f + 1, m, .ifElse c t e => if evalCond L m c then sem L f (condEff L m c) t else sem L f (condEff L m c) e
  | f + 1, m, .while c b =>
    if evalCond L m c then
      (match sem L f (condEff L m c) b with
       | none => none
       | some (.brk, m1) => some (.norm, m1)
       | some (_, m1) => sem L f m1 (.while c b))
    else some (.norm, condEff L m c)
  | f + 1, m, .doWhile b c =>
    (match sem L f m b with
     | none => none
     | some (.brk, m1) => some (.norm, m1)
     | some (_, m1) => if evalCond L m1 c then sem L f (condEff L m1 c) (.doWhile b c) else some (.norm, condEff L m1 c))
  | f + 1, m, .for i c u b => semFor L c u b f (rspec L m i)

/-- the loop of a `for` behind its initialisation: a `continue` in the body still runs the update -/
def semFor (L : Layout) (c : Cond) (u : RStmt) (b : SStmt) : Nat → SrcSt → Option Out
  | 0, _ => none
  | f + 1, m =>
    if evalCond L m c then
      (match sem L f (condEff L m c) b with
       | none => none
       | some (.brk, m1) => some (.norm, m1)
       | some (_, m1) => semFor L c u b f (rspec L m1 u))
    else some (.norm, condEff L m c)
end

/-! ### the machine on emitted lines -/

def findLbl : List GLine → Lbl → Option Nat
  | [], _ => none
  | .lab l' :: r, l => if l' = l then some 0 else (findLbl r l).map (· + 1)
  | _ :: r, l => (findLbl r l).map (· + 1)

def opdOf (L : Layout) : Option Atom → Opd
  | none => .none
  | some a => opd L a

/-- one step at `pc`; `none` = stuck (fell off the end, illegal operand, undefined label) -/
def stepG (L : Layout) (code : List GLine) (pc : Nat) (s : Cpu) : Option (Nat × Cpu) :=
  match code[pc]? with
  | none => none
  | some (.lab _) => some (pc + 1, s)
  | some (.ins mn a) => (s.exec mn (opdOf L a)).map fun s' => (pc + 1, s')
  | some (.br mn l) =>
    (match Cpu.taken s.f mn with
     | some true => (findLbl code l).map fun t => (t, s)
     | some false => some (pc + 1, s)
     | none => none)
  | some (.jmp l) => (findLbl code l).map fun t => (t, s)

/-- run with fuel until `pc = stop` -/
def runG (L : Layout) (code : List GLine) (stop : Nat) : Nat → Nat → Cpu → Option Cpu
  | 0, pc, s => if pc = stop then some s else none
  | f + 1, pc, s =>
    if pc = stop then some s else
    match stepG L code pc s with
    | some (pc', s') => runG L code stop f pc' s'
    | none => none

end CV.GenStruct
